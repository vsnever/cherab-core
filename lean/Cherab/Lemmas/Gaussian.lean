/- shared: Gaussian normalisation over ℝ² (used by C04 beam cross-section and C18 laser profiles) -/
import Mathlib.Analysis.SpecialFunctions.Gaussian.GaussianIntegral
import Mathlib.MeasureTheory.Integral.Prod

open Real MeasureTheory

namespace Cherab.Lemmas

/-- 1D: ∫ exp(-x²/(2σ²)) = σ √(2π) -/
theorem gauss1d (σ : ℝ) (hσ : 0 < σ) :
    ∫ x : ℝ, Real.exp (-(1 / (2 * σ ^ 2)) * x ^ 2) = σ * Real.sqrt (2 * π) := by
  rw [integral_gaussian, show π / (1 / (2 * σ ^ 2)) = σ ^ 2 * (2 * π) by field_simp,
    Real.sqrt_mul (sq_nonneg σ), Real.sqrt_sq hσ.le]

theorem gauss2d (sx sy : ℝ) (hx : 0 < sx) (hy : 0 < sy) :
    ∫ p : ℝ × ℝ, (Real.exp (-(1 / (2 * sx ^ 2)) * p.1 ^ 2) * Real.exp (-(1 / (2 * sy ^ 2)) * p.2 ^ 2))
      = 2 * π * sx * sy := by
  rw [Measure.volume_eq_prod, integral_prod_mul (f := fun x : ℝ => Real.exp (-(1 / (2 * sx ^ 2)) * x ^ 2))
        (g := fun y : ℝ => Real.exp (-(1 / (2 * sy ^ 2)) * y ^ 2)),
    gauss1d sx hx, gauss1d sy hy, mul_mul_mul_comm, Real.mul_self_sqrt (by positivity)]
  ring

end Cherab.Lemmas
