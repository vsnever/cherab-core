import Cherab.Model.InstrumentMachines
import Cherab.Lemmas.Instruments

/-! Helpers for the value-level machines of `Spectrometer` and `Polychromator` (`Model/InstrumentMachines.lean`): the calls
in equational form, and the invariants "every stored derived value is the function of the current parameters it would be on
a fresh instrument" with their preservation.  The Czerny-Turner machine's are in `Lemmas/Instruments.lean` and, for the
invariant `CTInv`, `Props/C16.lean`. -/
namespace Cherab.Lemmas.InstrumentMachines
set_option linter.unusedSectionVars false
open Cherab.Instruments Cherab.Lemmas.Instruments

variable {α : Type} [Add α] [Sub α] [Mul α] [Div α] [Neg α] [Zero α] [One α] [OfScientific α] [NatCast α]
  [LT α] [LE α] [DecidableLT α] [DecidableLE α]

section spectrometer
variable (ceil : α → Int) (s : SpState α)

theorem spStep_setW2p (v : List (List α)) :
    spStep ceil s (.setW2p v) = if w2pAccepted v = true
      then ({ s with p := { s.p with w2p := v }, wavelengths := v.map centres, settings := none }, .done)
      else (s, .valueError) := by
  by_cases hv : w2pAccepted v = true
  · simp only [spStep, spSetW2p, if_pos hv]
  · simp only [spStep, spSetW2p, if_neg hv]

theorem spStep_setMbpp (v : Int) :
    spStep ceil s (.setMbpp v) = if v ≤ 0 then (s, .valueError)
      else ({ s with p := { s.p with mbpp := v.toNat }, settings := none }, .done) := by
  by_cases hv : v ≤ 0
  · simp only [spStep, spSetMbpp, if_pos hv]
  · simp only [spStep, spSetMbpp, if_neg hv]

theorem spFill_p : (spFill ceil s).1.p = s.p := by
  unfold spFill; split
  · rfl
  · split <;> rfl

theorem spStep_getMin : spStep ceil s .getMin =
    ((spFill ceil s).1, match (spFill ceil s).2 with | some st => .num st.minW | none => .valueError) := by
  unfold spStep; rcases spFill ceil s with ⟨s', _ | st⟩ <;> rfl

theorem spStep_getMax : spStep ceil s .getMax =
    ((spFill ceil s).1, match (spFill ceil s).2 with | some st => .num st.maxW | none => .valueError) := by
  unfold spStep; rcases spFill ceil s with ⟨s', _ | st⟩ <;> rfl

theorem spStep_getBins : spStep ceil s .getBins =
    ((spFill ceil s).1, match (spFill ceil s).2 with | some st => .int st.bins | none => .valueError) := by
  unfold spStep; rcases spFill ceil s with ⟨s', _ | st⟩ <;> rfl

theorem spStep_calibrate (I : α → α → α) (a b : α) :
    spStep ceil s (.calibrate I a b) = ((spFill ceil s).1, match (spFill ceil s).2 with
      | some st => (match calibrate I a b st.minW st.maxW (spFill ceil s).1.p.w2p with
        | some r => .arrays r
        | none => .valueError)
      | none => .valueError) := by
  unfold spStep
  rcases spFill ceil s with ⟨s', _ | st⟩
  · rfl
  · simp only; cases calibrate I a b st.minW st.maxW s'.p.w2p <;> rfl

structure SpInv (ceil : α → Int) (s : SpState α) : Prop where
  wavelengths : s.wavelengths = s.p.w2p.map centres
  settings : ∀ st, s.settings = some st → spectralSettings ceil s.p.w2p s.p.mbpp = some st
  classes : ∀ n, s.classes = some n → n = 1
  kwargs : ∀ k, s.kwargs = some k → k = specPipelineNames' s.p.name

theorem spInv_fresh (p : SpParams α) : SpInv ceil (spFresh p) := ⟨rfl, nofun, nofun, nofun⟩

theorem spInv_fill (h : SpInv ceil s) :
    SpInv ceil (spFill ceil s).1 ∧ (spFill ceil s).2 = spectralSettings ceil s.p.w2p s.p.mbpp := by
  unfold spFill
  cases hs : s.settings with
  | some st => exact ⟨h, (h.settings st hs).symm⟩
  | none =>
    cases hq : spectralSettings ceil s.p.w2p s.p.mbpp with
    | some st => exact ⟨{ h with settings := fun st' hst' => Option.some.inj hst' ▸ hq }, rfl⟩
    | none => exact ⟨h, rfl⟩

theorem spInv_step (o : SpOp α) (h : SpInv ceil s) : SpInv ceil (spStep ceil s o).1 := by
  cases o with
  | setW2p v =>
    rw [spStep_setW2p]; split
    · exact { h with wavelengths := rfl, settings := nofun }
    · exact h
  | setMbpp v =>
    rw [spStep_setMbpp]; split
    · exact h
    · exact { h with settings := nofun }
  | setName v => exact { h with kwargs := nofun }
  | getMin | getMax | getBins | calibrate I a b =>
    simp only [spStep_getMin, spStep_getMax, spStep_getBins, spStep_calibrate]
    exact (spInv_fill ceil s h).1
  | getW2p | getWavelengths | getMbpp | getName => exact h
  | getClasses =>
    simp only [spStep]; split
    · exact h
    · exact { h with classes := fun n hn => (Option.some.inj hn).symm }
  | getKwargs =>
    simp only [spStep]; split
    · exact h
    · exact { h with kwargs := fun k hk => (Option.some.inj hk).symm }

theorem spInv_run (ops : List (SpOp α)) (h : SpInv ceil s) : SpInv ceil (spRun ceil s ops) :=
  foldl_invariant (spInv_step ceil) ops s h

theorem spStep_p_of_not_setter (o : SpOp α) (ho : o.isSetter = false) : (spStep ceil s o).1.p = s.p := by
  cases o with
  | setW2p v | setMbpp v | setName v => cases ho
  | getMin | getMax | getBins | calibrate I a b =>
    simp only [spStep_getMin, spStep_getMax, spStep_getBins, spStep_calibrate]
    exact spFill_p ceil s
  | getW2p | getWavelengths | getMbpp | getName => rfl
  | getClasses | getKwargs => simp only [spStep]; split <;> rfl

theorem spStep_p_congr (t : SpState α) (o : SpOp α) (ho : o.isSetter = true) (h : s.p = t.p) :
    (spStep ceil s o).1.p = (spStep ceil t o).1.p := by
  cases o with
  | setW2p v => simp only [spStep_setW2p]; split <;> simp only [h]
  | setMbpp v => simp only [spStep_setMbpp]; split <;> simp only [h]
  | setName v => simp only [spStep, spSetName, h]
  | _ => cases ho

theorem spRun_p_filter (t : SpState α) (ops : List (SpOp α)) (h : s.p = t.p) :
    (spRun ceil s ops).p = (spRun ceil t (ops.filter SpOp.isSetter)).p :=
  foldl_filter_proj (proj := SpState.p) (spStep_p_of_not_setter ceil) (spStep_p_congr ceil) ops s t h

theorem spStep_accepted (o : SpOp α) (h : w2pAccepted s.p.w2p = true ∧ 0 < s.p.mbpp) :
    w2pAccepted (spStep ceil s o).1.p.w2p = true ∧ 0 < (spStep ceil s o).1.p.mbpp := by
  cases ho : o.isSetter with
  | false => rw [spStep_p_of_not_setter ceil s o ho]; exact h
  | true =>
    cases o with
    | setW2p v =>
      rw [spStep_setW2p]; split
      · exact ⟨‹_›, h.2⟩
      · exact h
    | setMbpp v =>
      rw [spStep_setMbpp]; split
      · exact h
      · exact ⟨h.1, by simp only; omega⟩
    | setName v => exact h
    | _ => cases ho

theorem spRun_accepted (ops : List (SpOp α)) (h : w2pAccepted s.p.w2p = true ∧ 0 < s.p.mbpp) :
    w2pAccepted (spRun ceil s ops).p.w2p = true ∧ 0 < (spRun ceil s ops).p.mbpp :=
  foldl_invariant (I := fun s => w2pAccepted s.p.w2p = true ∧ 0 < s.p.mbpp) (spStep_accepted ceil) ops s h

end spectrometer

section polychromator
variable (x : PolyExt α) (s : PolyState α)

theorem polyStep_setFilters (v : List (Option (String × PFilter α))) :
    polyStep x s (.setFilters v) = if v.all Option.isSome = true
      then ({ s with p := { s.p with filters := v.filterMap id }, settings := none, classes := none, kwargs := none }, .done)
      else (s, .typeError) := by
  by_cases hv : v.all Option.isSome = true
  · simp only [polyStep, polySetFilters, if_pos hv]
  · simp only [polyStep, polySetFilters, if_neg hv]

theorem polyStep_setMbpw (v : Int) :
    polyStep x s (.setMbpw v) = if v ≤ 0 then (s, .valueError)
      else ({ s with p := { s.p with mbpw := v.toNat }, settings := none }, .done) := by
  by_cases hv : v ≤ 0
  · simp only [polyStep, polySetMbpw, if_pos hv]
  · simp only [polyStep, polySetMbpw, if_neg hv]

theorem polyFill_p : (polyFill x s).1.p = s.p := by unfold polyFill; split <;> rfl

theorem polyFillClasses_p : (polyFillClasses s).1.p = s.p := by unfold polyFillClasses; split <;> rfl

theorem polyFillKwargs_p : (polyFillKwargs s).1.p = s.p := by unfold polyFillKwargs; split <;> rfl

structure PolyInv (x : PolyExt α) (s : PolyState α) : Prop where
  settings : ∀ st, s.settings = some st → st = polySettings x.ceil x.inf (s.p.filters.map (·.2)) s.p.mbpw
  classes : ∀ n, s.classes = some n → n = s.p.filters.length
  kwargs : ∀ k, s.kwargs = some k → k = polyKwargs s.p

theorem polyInv_fresh (p : PolyParams α) : PolyInv x (polyFresh p) := ⟨nofun, nofun, nofun⟩

theorem polyFill_spec (h : PolyInv x s) : PolyInv x (polyFill x s).1 ∧
    (polyFill x s).2 = polySettings x.ceil x.inf (s.p.filters.map (·.2)) s.p.mbpw := by
  unfold polyFill
  cases hs : s.settings with
  | some st => exact ⟨h, h.settings st hs⟩
  | none => exact ⟨{ h with settings := fun st hst => (Option.some.inj hst).symm }, rfl⟩

theorem polyFillClasses_spec (h : PolyInv x s) :
    PolyInv x (polyFillClasses s).1 ∧ (polyFillClasses s).2 = s.p.filters.length := by
  unfold polyFillClasses
  cases hs : s.classes with
  | some n => exact ⟨h, h.classes n hs⟩
  | none => exact ⟨{ h with classes := fun n hn => (Option.some.inj hn).symm }, rfl⟩

theorem polyFillKwargs_spec (h : PolyInv x s) :
    PolyInv x (polyFillKwargs s).1 ∧ (polyFillKwargs s).2 = polyKwargs s.p := by
  unfold polyFillKwargs
  cases hs : s.kwargs with
  | some k => exact ⟨h, h.kwargs k hs⟩
  | none => exact ⟨{ h with kwargs := fun k hk => (Option.some.inj hk).symm }, rfl⟩

theorem polyInv_step (o : PolyOp α) (h : PolyInv x s) : PolyInv x (polyStep x s o).1 := by
  cases o with
  | setFilters v =>
    rw [polyStep_setFilters]; split
    · exact ⟨nofun, nofun, nofun⟩
    · exact h
  | setMbpw v =>
    rw [polyStep_setMbpw]; split
    · exact h
    · exact { h with settings := nofun }
  | setName v => exact { h with kwargs := nofun }
  | getMin | getMax | getBins => exact (polyFill_spec x s h).1
  | getFilters | getMbpw | getName => exact h
  | getClasses => exact (polyFillClasses_spec x s h).1
  | getKwargs => exact (polyFillKwargs_spec x s h).1
  | createPipelines => exact (polyFillKwargs_spec x _ (polyFillClasses_spec x s h).1).1

theorem polyInv_run (ops : List (PolyOp α)) (h : PolyInv x s) : PolyInv x (polyRun x s ops) :=
  foldl_invariant (polyInv_step x) ops s h

theorem polyStep_p_of_not_setter (o : PolyOp α) (ho : o.isSetter = false) : (polyStep x s o).1.p = s.p := by
  cases o with
  | setFilters v | setMbpw v | setName v => cases ho
  | getMin | getMax | getBins => exact polyFill_p x s
  | getFilters | getMbpw | getName => rfl
  | getClasses => exact polyFillClasses_p s
  | getKwargs => exact polyFillKwargs_p s
  | createPipelines => exact (polyFillKwargs_p _).trans (polyFillClasses_p s)

theorem polyStep_p_congr (t : PolyState α) (o : PolyOp α) (ho : o.isSetter = true) (h : s.p = t.p) :
    (polyStep x s o).1.p = (polyStep x t o).1.p := by
  cases o with
  | setFilters v => simp only [polyStep_setFilters]; split <;> simp only [h]
  | setMbpw v => simp only [polyStep_setMbpw]; split <;> simp only [h]
  | setName v => simp only [polyStep, polySetName, h]
  | _ => cases ho

theorem polyRun_p_filter (t : PolyState α) (ops : List (PolyOp α)) (h : s.p = t.p) :
    (polyRun x s ops).p = (polyRun x t (ops.filter PolyOp.isSetter)).p :=
  foldl_filter_proj (proj := PolyState.p) (polyStep_p_of_not_setter x) (polyStep_p_congr x) ops s t h

end polychromator

end Cherab.Lemmas.InstrumentMachines
