import Cherab.Lemmas.Admt
import Cherab.Model.AdmtDense

/-!
Helpers for `Props/C20Dense.lean`: the dictionary lookup is injective (two different keys never give the same 1-D
index), hence so is the column map of the nine stencil positions; the simulation invariant between the dense
(column-keyed, last write wins) and the position-keyed execution of an assignment program.
-/
namespace Cherab.Admt
open Cherab.Gen.Admt

theorem lookup_inj {cells : List (Int × Int)} {a b a' b' : Int} {n : Nat}
    (h : lookup cells a b = some n) (h' : lookup cells a' b' = some n) : a = a' ∧ b = b' := by
  unfold lookup at h h'
  rw [List.findIdx?_eq_some_iff_getElem] at h h'
  obtain ⟨hn, e, _⟩ := h
  obtain ⟨_, e', _⟩ := h'
  simp only [Bool.and_eq_true, beq_iff_eq] at e e'
  exact ⟨e.1.symm.trans e'.1, e.2.symm.trans e'.2⟩

theorem Pos.off_inj (p q : Pos) (h1 : p.off.1 = q.off.1) (h2 : p.off.2 = q.off.2) : p = q := by
  have h : ∀ p ∈ Pos.all, ∀ q ∈ Pos.all, p.off.1 = q.off.1 → p.off.2 = q.off.2 → p = q := by decide +kernel
  exact h p (Pos.mem_all p) q (Pos.mem_all q) h1 h2

/-- two stencil positions never share a column -/
theorem neighbour_inj (cells : List (Int × Int)) (c : Int × Int) (p q : Pos) (n : Nat)
    (h : neighbour cells c p = some n) (h' : neighbour cells c q = some n) : p = q := by
  unfold neighbour at h h'
  obtain ⟨e1, e2⟩ := lookup_inj h h'
  exact Pos.off_inj p q (by omega) (by omega)

section
variable {α : Type} [Field α]

/-- `rawEntry` picks the coefficient of the unique position whose column is `j` (0 if there is none) -/
theorem rawEntry_of_col {cells : List (Int × Int)} {c : Int × Int} (t : Table) (op : Op5) {j : Nat} {p0 : Pos}
    (h : neighbour cells c p0 = some j) : (rawEntry cells c t op j : α) = t.val op p0 := by
  unfold rawEntry
  -- only `p0` contributes (`neighbour_inj`), and it occurs once among the nine positions
  have hcount : List.count p0 Pos.all = 1 := by cases p0 <;> rfl
  rw [foldl_ite_add_eq, zero_add, List.sum_map_eq_nsmul_single p0, hcount, one_nsmul, h, beq_self_eq_true, if_pos rfl]
  intro p hp _
  rw [if_neg]
  intro h2
  exact hp (neighbour_inj cells c p p0 j (by simpa using h2) h)

theorem rawEntry_of_no_col {cells : List (Int × Int)} {c : Int × Int} (t : Table) (op : Op5) {j : Nat}
    (h : ∀ p, neighbour cells c p ≠ some j) : (rawEntry cells c t op j : α) = 0 := by
  unfold rawEntry
  rw [foldl_ite_add_eq, zero_add]
  apply List.sum_eq_zero
  intro x hx
  rw [List.mem_map] at hx
  obtain ⟨p, _, rfl⟩ := hx
  simp [h p]

end

/-- simulation invariant: column `n` of the dense rows holds what the table holds at the position with column `n` -/
def DenseInv (cells : List (Int × Int)) (c : Int × Int) (d : DenseRows) (t : Table) : Prop :=
  (∀ op p n, neighbour cells c p = some n → d op n = t op p) ∧
  (∀ op n, (∀ p, neighbour cells c p ≠ some n) → d op n = none)

def DenseRel (cells : List (Int × Int)) (c : Int × Int) : Option DenseRows → Option Table → Prop
  | some d, some t => DenseInv cells c d t
  | none, none => True
  | _, _ => False

section simulation
variable {cells : List (Int × Int)} {c : Int × Int}

theorem DenseRel.bind {o : Option DenseRows} {o' : Option Table} {f : DenseRows → Option DenseRows}
    {g : Table → Option Table} (h : DenseRel cells c o o')
    (hfg : ∀ d t, DenseInv cells c d t → DenseRel cells c (f d) (g t)) : DenseRel cells c (o.bind f) (o'.bind g) := by
  rcases o with _ | d <;> rcases o' with _ | t
  · trivial
  · exact h.elim
  · exact h.elim
  · exact hfg d t h

/-! In what follows `hi` says that the cell `c` is stored at 1-D index `i` (`grid_index_2d_to_1d_map[c] = i`). -/

theorem colOf_eq {i : Nat} (hi : lookup cells c.1 c.2 = some i) (p : Pos) :
    colOf cells c i p = neighbour cells c p := by
  unfold colOf
  split_ifs with h
  · subst h; simp [neighbour, Pos.off, hi]
  · rfl

theorem stepDense_rel {i : Nat} (hi : lookup cells c.1 c.2 = some i) {d : DenseRows} {t : Table} (a : Asg)
    (hinv : DenseInv cells c d t) :
    DenseRel cells c (stepDense cells c i d a) (stepAsg (hasOf cells c) t a) := by
  unfold stepDense stepAsg
  rw [colOf_eq hi]
  by_cases hg : (a.guards.all (·.eval (hasOf cells c))) = true
  · simp only [hg, if_true]
    cases hcol : neighbour cells c a.pos with
    | none =>
      have hs : a.pos ≠ .self := by
        intro e
        rw [e] at hcol
        simp [neighbour, Pos.off, hi] at hcol
      simp [hasOf, hcol, hs, DenseRel]
    | some n =>
      have hh : hasOf cells c a.pos = true := by simp [hasOf, hcol]
      simp only [hh, or_true, if_true, DenseRel]
      refine ⟨?_, ?_⟩
      · intro op p m hm
        have key : m = n ↔ p = a.pos :=
          ⟨fun e => neighbour_inj cells c p a.pos m hm (e ▸ hcol), fun e => Option.some.inj ((e ▸ hm).symm.trans hcol)⟩
        simp only [DenseRows.store, Table.set, key, hinv.1 op p m hm]
      · intro op m hm
        have : m ≠ n := fun e => hm a.pos (e ▸ hcol)
        simp only [DenseRows.store, this, and_false, if_false, hinv.2 op m hm]
  · simp only [hg, DenseRel]
    simpa using hinv

theorem foldlM_rel {i : Nat} (hi : lookup cells c.1 c.2 = some i) (prog : List Asg) {d : DenseRows} {t : Table}
    (hinv : DenseInv cells c d t) :
    DenseRel cells c (prog.foldlM (stepDense cells c i) d) (prog.foldlM (stepAsg (hasOf cells c)) t) := by
  induction prog generalizing d t with
  | nil => simpa [DenseRel] using hinv
  | cons a r ih =>
    rw [List.foldlM_cons, List.foldlM_cons]
    exact (stepDense_rel hi a hinv).bind fun _ _ => ih

end simulation

end Cherab.Admt
