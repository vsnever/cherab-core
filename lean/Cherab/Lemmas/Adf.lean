import Cherab.Model.Adf
import Mathlib.Data.List.Basic

/-!
Helper lemmas for C08: `chunk`, indexing into row-major tables, `readvalues` over chunked lines,
`readToks` over token lines.
-/
namespace Cherab.Adf

variable {α ℓ : Type}

theorem chunk_nil (p : Nat) : chunk p ([] : List α) = [] := rfl

theorem chunkF_nil (p f : Nat) : chunkF p f ([] : List α) = [] := by
  cases f <;> simp [chunkF]

theorem chunkF_fuel (p : Nat) (hp : 0 < p) : ∀ (f : Nat) (xs : List α) (g : Nat), xs.length ≤ f → xs.length ≤ g →
    chunkF p f xs = chunkF p g xs := by
  intro f
  induction f with
  | zero =>
    intro xs g h _
    have : xs = [] := List.length_eq_zero_iff.mp (by omega)
    subst this
    rw [chunkF_nil, chunkF_nil]
  | succ f ih =>
    intro xs g h hg
    cases xs with
    | nil => rw [chunkF_nil, chunkF_nil]
    | cons a t =>
      cases g with
      | zero => simp at hg
      | succ g =>
        simp only [chunkF, List.isEmpty_cons]
        simp only [List.length_cons] at h hg
        rw [ih _ g (by simp only [List.length_drop, List.length_cons]; omega)
          (by simp only [List.length_drop, List.length_cons]; omega)]

theorem chunk_cons {p : Nat} (hp : 0 < p) {xs : List α} (hx : xs ≠ []) :
    chunk p xs = xs.take p :: chunk p (xs.drop p) := by
  cases xs with
  | nil => exact absurd rfl hx
  | cons a t =>
    unfold chunk
    simp only [List.length_cons, chunkF, List.isEmpty_cons]
    rw [chunkF_fuel p hp _ _ _ (by simp only [List.length_drop, List.length_cons]; omega) (Nat.le_refl _)]
    simp [Nat.ne_of_gt hp]

theorem take_ne_nil {p : Nat} (hp : 0 < p) {xs : List α} (hx : xs ≠ []) : xs.take p ≠ [] :=
  fun h => (List.take_eq_nil_iff.mp h).elim (Nat.ne_of_gt hp) hx

theorem chunk_small {p : Nat} (xs : List α) (h0 : xs ≠ []) (hl : xs.length ≤ p) : chunk p xs = [xs] := by
  have hp : 0 < p := Nat.lt_of_lt_of_le (List.length_pos_iff.mpr h0) hl
  rw [chunk_cons hp h0, List.take_of_length_le hl, List.drop_eq_nil_of_le hl, chunk_nil]

theorem drop_induction {p : Nat} (hp : 0 < p) {P : List α → Prop} (nil : P [])
    (step : ∀ xs, xs ≠ [] → P (xs.drop p) → P xs) (xs : List α) : P xs := by
  induction h : xs.length using Nat.strongRecOn generalizing xs with
  | _ n ih =>
    by_cases hx : xs = []
    · exact hx ▸ nil
    · refine step xs hx (ih _ ?_ _ rfl)
      have := List.length_pos_iff.mpr hx
      simp only [List.length_drop]; omega

theorem chunk_flatten {p : Nat} (hp : 0 < p) (xs : List α) : (chunk p xs).flatten = xs := by
  induction xs using drop_induction hp with
  | nil => rfl
  | step xs hx ih => rw [chunk_cons hp hx, List.flatten_cons, ih, List.take_append_drop]

theorem chunk_ne_nil {p : Nat} (hp : 0 < p) (xs : List α) : ∀ c ∈ chunk p xs, c ≠ [] := by
  induction xs using drop_induction hp with
  | nil => exact fun _ h => nomatch h
  | step xs hx ih =>
    rw [chunk_cons hp hx]
    intro c hc
    rcases List.mem_cons.mp hc with rfl | h
    · exact take_ne_nil hp hx
    · exact ih c h

theorem flatten_flatMap_chunk {β : Type} {p : Nat} (hp : 0 < p) (l : List β) (f : β → List α) :
    (l.flatMap fun j => chunk p (f j)).flatten = l.flatMap f := by
  induction l with
  | nil => rfl
  | cons a l ih => simp only [List.flatMap_cons, List.flatten_append, ih, chunk_flatten hp]

theorem flatMap_chunk_ne_nil {β : Type} {p : Nat} (hp : 0 < p) (l : List β) (f : β → List α) :
    ∀ c ∈ (l.flatMap fun j => chunk p (f j)), c ≠ [] := by
  intro c hc
  obtain ⟨j, _, hj⟩ := List.mem_flatMap.mp hc
  exact chunk_ne_nil hp _ c hj

theorem length_flatMap_range (m n : Nat) (g : Nat → Nat → α) :
    ((List.range m).flatMap fun j => (List.range n).map (g j)).length = m * n := by
  induction m with
  | zero => simp
  | succ m ih =>
    rw [List.range_succ, List.flatMap_append, List.length_append, ih, List.flatMap_singleton, List.length_map, List.length_range,
      Nat.succ_mul]

theorem drop_flatten_uniform (w : Nat) : ∀ (k : Nat) (ls : List (List α)), (∀ l ∈ ls, l.length = w) →
    ls.flatten.drop (w * k) = (ls.drop k).flatten := by
  intro k
  induction k with
  | zero => intro ls _; simp
  | succ k ih =>
    intro ls h
    cases ls with
    | nil => simp
    | cons a ls =>
      obtain ⟨ha, hls⟩ := List.forall_mem_cons.mp h
      have : w * (k + 1) = a.length + w * k := by rw [ha, Nat.mul_succ, Nat.add_comm]
      simp only [List.flatten_cons, List.drop_succ_cons, this]
      rw [← List.drop_drop, List.drop_left]
      exact ih ls hls

theorem getElem?_flatMap_range (m n : Nat) (g : Nat → Nat → α) (j i : Nat) (hj : j < m) (hi : i < n) :
    ((List.range m).flatMap fun j => (List.range n).map (g j))[j * n + i]? = some (g j i) := by
  -- skip `j` whole rows, then index into row `j`
  rw [List.flatMap_def, Nat.mul_comm, ← List.getElem?_drop,
    drop_flatten_uniform n j _ (by simp only [List.forall_mem_map, List.length_map, List.length_range, implies_true]),
    ← List.map_drop, List.drop_eq_getElem_cons (by rw [List.length_range]; exact hj), List.map_cons, List.flatten_cons,
    List.getElem?_append_left (by rw [List.length_map, List.length_range]; exact hi), List.getElem?_map, List.getElem?_range hi,
    List.getElem_range]
  rfl

/-- the shape in which the model writes `reshape`, `swapaxes` and the column loops -/
theorem tabulate_of_lookup (n m : Nat) (f : Nat → Nat → α) (g : Nat → Nat → Option α)
    (h : ∀ i, i < n → ∀ j, j < m → g i j = some (f i j)) :
    ((List.range n).map fun i => (List.range m).filterMap (g i)) = tabulate n m f := by
  unfold tabulate
  refine List.map_congr_left fun i hi => ?_
  rw [← List.filterMap_eq_map]
  exact List.filterMap_congr fun j hj => h i (List.mem_range.mp hi) j (List.mem_range.mp hj)

/-! ### readvalues over chunked lines

`mk` writes a line of values and `field` reads its columns back (`hf`). -/

/-- within line `c` of a file written `p` values per line: from column `i` the loop reads the `k` values left on `c`
(fetching `c` itself first when `i = 0`) and then goes on as it does from the end of `c` -/
theorem readvaluesAux_line {field : ℓ → Nat → Option α} {mk : List α → ℓ} (hf : ∀ xs k, field (mk xs) k = xs[k]?)
    (p : Nat) (c : List α) (L : List ℓ) (q m : Nat) (hc0 : c ≠ []) (hc : c.length ≤ p)
    {o : List α} {r : List ℓ} (h : readvaluesAux field p m (q * p + c.length) (some (mk c)) L = .ok (o, r)) :
    ∀ (k i : Nat) (cur : Option ℓ) (lines : List ℓ), i + k = c.length →
      (if i == 0 then lines.head? else cur) = some (mk c) → (if i == 0 then lines.tail else lines) = L →
      readvaluesAux field p (k + m) (q * p + i) cur lines = .ok (c.drop i ++ o, r) := by
  intro k
  induction k with
  | zero =>
    intro i cur lines hi hcur hrest
    obtain rfl : i = c.length := hi
    have hne : (c.length == 0) = false := beq_eq_false_iff_ne.mpr fun h0 => hc0 (List.length_eq_zero_iff.mp h0)
    simp only [hne, Bool.false_eq_true, if_false] at hcur hrest
    rw [hcur, hrest, Nat.zero_add, List.drop_length, List.nil_append]
    exact h
  | succ k ih =>
    intro i cur lines hi hcur hrest
    have hlt : i < c.length := by omega
    have hmod : (q * p + i) % p = i := by
      rw [Nat.add_comm, Nat.add_mul_mod_self_right]; exact Nat.mod_eq_of_lt (by omega)
    -- one turn of the loop reads `c[i]`; line `c` is the current one afterwards
    rw [Nat.add_right_comm k 1 m, readvaluesAux, List.drop_eq_getElem_cons hlt]
    simp only [hmod, hcur, hrest, Option.bind_some, hf, List.getElem?_eq_getElem hlt, Nat.add_assoc,
      ih (i + 1) (some (mk c)) L (by omega) rfl rfl, List.cons_append]

theorem readvaluesAux_chunks {field : ℓ → Nat → Option α} {mk : List α → ℓ} (hf : ∀ xs k, field (mk xs) k = xs[k]?)
    (p : Nat) (hp : 0 < p) (rest : List ℓ) (xs : List α) :
    ∀ (q : Nat) (cur : Option ℓ),
      readvaluesAux field p xs.length (q * p) cur ((chunk p xs).map mk ++ rest) = .ok (xs, rest) := by
  induction xs using drop_induction hp with
  | nil => intro q cur; rfl
  | step xs hx ih =>
    intro q cur
    -- after the first line the loop reads `xs.drop p`
    have hrest : readvaluesAux field p (xs.drop p).length (q * p + (xs.take p).length) (some (mk (xs.take p)))
        ((chunk p (xs.drop p)).map mk ++ rest) = .ok (xs.drop p, rest) := by
      by_cases hd : xs.drop p = []
      · -- last line: nothing is left to read
        rw [hd, chunk_nil]; rfl
      · -- full line: the next read starts line `q + 1`
        have hlen : p < xs.length := Nat.lt_of_not_le fun h => hd (List.drop_eq_nil_of_le h)
        rw [show q * p + (xs.take p).length = (q + 1) * p by
          rw [List.length_take, Nat.min_eq_left (Nat.le_of_lt hlen), Nat.succ_mul]]
        exact ih (q + 1) _
    have := readvaluesAux_line hf p (xs.take p) _ q _ (take_ne_nil hp hx) (List.length_take_le p xs) hrest
      (xs.take p).length 0 cur (mk (xs.take p) :: ((chunk p (xs.drop p)).map mk ++ rest)) (Nat.zero_add _) rfl rfl
    rw [List.drop_zero, List.take_append_drop, ← List.length_append, List.take_append_drop] at this
    rw [chunk_cons hp hx]
    exact this

theorem readvalues_of_chunks {field : ℓ → Nat → Option α} {mk : List α → ℓ} (hf : ∀ xs k, field (mk xs) k = xs[k]?)
    (p : Nat) (hp : 0 < p) (xs : List α) {n : Nat} (hn : xs.length = n) (rest : List ℓ) :
    readvalues field n p ((chunk p xs).map mk ++ rest) = .ok (xs, rest) := by
  subst hn
  have := readvaluesAux_chunks hf p hp rest xs 0 none
  rwa [Nat.zero_mul] at this

theorem readvalues_line {field : ℓ → Nat → Option α} {mk : List α → ℓ} (hf : ∀ xs k, field (mk xs) k = xs[k]?)
    (p : Nat) (xs : List α) (n : Nat) (hn : xs.length = n) (h0 : 0 < n) (hp : n ≤ p) (rest : List ℓ) :
    readvalues field n p (mk xs :: rest) = .ok (xs, rest) := by
  have := readvalues_of_chunks hf p (by omega) xs hn rest
  rwa [chunk_small xs (List.ne_nil_of_length_pos (hn ▸ h0)) (hn ▸ hp)] at this

/-! ### readToks over token lines

`mk` writes a line of tokens and `split` reads them back (`hs`). -/

theorem readToks_lines {split : ℓ → Option (List α)} {mk : List α → ℓ} (hs : ∀ xs, split (mk xs) = some xs)
    (n : Nat) (rest : List ℓ) :
    ∀ (ls : List (List α)) (nn : Nat) (acc : List α), (∀ c ∈ ls, c ≠ []) → nn + ls.flatten.length = n →
      readToks split n (ls.map mk ++ rest) nn acc = .ok (acc ++ ls.flatten, rest) := by
  intro ls
  induction ls with
  | nil =>
    intro nn acc _ hn
    simp only [List.flatten_nil, List.length_nil, Nat.add_zero] at hn
    subst hn
    cases rest <;> simp [readToks]
  | cons c ls ih =>
    intro nn acc hne hn
    obtain ⟨hc, hls⟩ := List.forall_mem_cons.mp hne
    have hcl := List.length_pos_iff.mpr hc
    simp only [List.flatten_cons, List.length_append] at hn
    have hneq : (nn == n) = false := by simp; omega
    simp only [List.map_cons, List.cons_append, readToks, hneq, Bool.false_eq_true, if_false, hs]
    rw [ih (nn + c.length) (acc ++ c) hls (by omega)]
    simp

theorem readToks_of_lines {split : ℓ → Option (List α)} {mk : List α → ℓ} (hs : ∀ xs, split (mk xs) = some xs)
    (ls : List (List α)) (hne : ∀ c ∈ ls, c ≠ []) {xs : List α} (hx : ls.flatten = xs)
    {n : Nat} (hn : xs.length = n) (rest : List ℓ) : readToks split n (ls.map mk ++ rest) 0 [] = .ok (xs, rest) := by
  subst hx hn
  exact readToks_lines hs _ rest ls 0 [] hne (Nat.zero_add _)

end Cherab.Adf
