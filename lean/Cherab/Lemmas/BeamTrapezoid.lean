/- C04: the code's list-based cumulative trapezoid, indexed (`cumtrapz_getElem?`); on an even grid it is Mathlib's
`trapezoidal_integral`, whence the C² error bound `cumtrapz_error_bound` -/
import Cherab.Lemmas.BeamDensity
import Mathlib.MeasureTheory.Integral.IntervalIntegral.TrapezoidalRule

namespace Cherab.Lemmas.BeamDensity
open Cherab.BeamDensity Finset
variable {α : Type} [Field α] [LinearOrder α] [IsStrictOrderedRing α]

def trap (x y : ℕ → α) (i : ℕ) : α := (x (i + 1) - x i) * (y (i + 1) + y i) / 2

theorem trap_eq (x y : ℕ → α) (i : ℕ) : (x (i + 1) - x i) * (y (i + 1) + y i) / 2.0 = trap x y i := by
  rw [lit2]; rfl

theorem cumtrapzFrom_range' (x y : ℕ → α) : ∀ (m j : ℕ) (acc : α) (l : ℕ), l < m →
    (cumtrapzFrom acc (x j) (y j) ((List.range' (j + 1) m).map fun i => (x i, y i)))[l]?
      = some (acc + ∑ i ∈ range (l + 1), trap x y (j + i)) := by
  intro m
  induction m with
  | zero => intro j acc l hl; exact absurd hl (Nat.not_lt_zero l)
  | succ m ih =>
      intro j acc l hl
      rw [List.range'_succ, List.map_cons, cumtrapzFrom, trap_eq]
      cases l with
      | zero => rw [List.getElem?_cons_zero, sum_range_one, Nat.add_zero]
      | succ l =>
          -- the accumulator has taken up trapezoid `j`; on the right it is the first term of the sum
          rw [List.getElem?_cons_succ, ih (j + 1) _ l (Nat.lt_of_succ_lt_succ hl), sum_range_succ' _ (l + 1), add_assoc]
          simp only [Nat.add_assoc, Nat.add_comm 1, Nat.add_zero, add_comm (trap x y j)]

theorem cumtrapz_getElem? (x y : ℕ → α) (m k : ℕ) (hk : k ≤ m) :
    (cumtrapz ((List.range (m + 1)).map fun i => (x i, y i)))[k]? = some (∑ i ∈ range k, trap x y i) := by
  rw [List.range_eq_range', List.range'_succ, List.map_cons]
  simp only [cumtrapz]
  cases k with
  | zero => rw [List.getElem?_cons_zero, sum_range_zero]
  | succ k =>
      rw [List.getElem?_cons_succ]
      simpa only [zero_add] using cumtrapzFrom_range' x y m 0 0 k (by omega)

theorem sum_trap_eq_trapezoidal (f : ℝ → ℝ) (a h : ℝ) (k : ℕ) (hk : 0 < k) :
    ∑ i ∈ range k, trap (fun i : ℕ => a + i * h) (fun i : ℕ => f (a + i * h)) i = trapezoidal_integral f k a (a + k * h) := by
  rw [← sum_trapezoidal_integral_adjacent_intervals hk]
  apply sum_congr rfl
  intro i _
  rw [trapezoidal_integral_one]
  simp only [trap]
  push_cast
  ring

/-- **trapezoid error bound for the code's cumulative rule**: for a C² integrand with `|f''| ≤ ζ` the `k`-th cumulative
value on the grid `a + i h` differs from `∫_a^{a+kh} f` by at most `|k h|³ ζ / (12 k²)`, the form in which Mathlib's
`trapezoidal_error_le_of_c2` gives it (`= (z_k − a) h² ζ / 12` for `h > 0`) -/
theorem cumtrapz_error_bound (f : ℝ → ℝ) (a h ζ : ℝ) (m k : ℕ) (hk0 : 0 < k) (hk : k ≤ m)
    (hf : ContDiffOn ℝ 2 f (Set.uIcc a (a + k * h)))
    (hb : ∀ x, |iteratedDerivWithin 2 f (Set.uIcc a (a + k * h)) x| ≤ ζ) :
    ∃ c, (cumtrapz ((List.range (m + 1)).map fun i : ℕ => (a + i * h, f (a + i * h))))[k]? = some c ∧
      |c - ∫ x in a..(a + k * h), f x| ≤ |k * h| ^ 3 * ζ / (12 * k ^ 2) := by
  refine ⟨_, cumtrapz_getElem? (fun i : ℕ => a + i * h) (fun i : ℕ => f (a + i * h)) m k hk, ?_⟩
  rw [sum_trap_eq_trapezoidal f a h k hk0]
  have := trapezoidal_error_le_of_c2 hf hb hk0
  rwa [add_sub_cancel_left] at this

end Cherab.Lemmas.BeamDensity
