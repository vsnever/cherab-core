import Cherab.Model.Caching
import Mathlib.Tactic.Ring
import Mathlib.Tactic.LinearCombination
import Mathlib.Tactic.IntervalCases
import Mathlib.Algebra.Order.Field.Basic

/-!
Helper lemmas for C14: algebra of the Hermite constraint systems.

Along one axis a constraint row equates `ev x der u` (value or derivative, at a knot `x`, of the cubic with coefficients
`u`) with `rhs ax i e der d` (the stencil value at the knot, or its central difference).  The 2-D and 3-D rows are these
two functionals iterated over the axes (`row2_eq`, `row3_eq`), so a coefficient block solves a cell's system iff
`ev2 … c = rhs2 … D` resp. `ev3 … c = rhs3 … D` at both knots of every axis and for every choice of derivatives
(`isSol1_iff`, `isSol2_iff`, `isSol3_iff`).  Everything else is linear algebra of the two functionals: both are linear and
read only four entries, and the 1-D system is nonsingular whenever the two knots differ (`hom1`), hence so are its
tensor powers (`hom2`, `hom3`, `unique*`).
-/
namespace Cherab.Caching
set_option linter.unusedSectionVars false

variable {α : Type} [Field α] [LinearOrder α] [IsStrictOrderedRing α]

theorem dotFrom_congr (row : List α) : ∀ (k0 : Nat) (c c' : Nat → α),
    (∀ k, k0 ≤ k → k < k0 + row.length → c k = c' k) → dotFrom k0 row c = dotFrom k0 row c' := by
  induction row with
  | nil => intro k0 c c' _; rfl
  | cons r rs ih =>
    intro k0 c c' h
    simp only [dotFrom]
    rw [h k0 le_rfl (by simp), ih (k0 + 1) c c' (fun k h1 h2 => h k (by omega) (by simp at h2 ⊢; omega))]

def ev (x : α) (der : Bool) (u : Nat → α) : α := sum4 fun k => comps x der k * u k

/-- `d` is indexed by stencil position; the knots `e = 0, 1` of cell `i` are positions 1 and 2 -/
def rhs (ax : Axis α) (i e : Nat) (der : Bool) (d : Nat → α) : α :=
  if der then (d (e + 2) - d e) / (ax.xn (i + e + 1) - ax.xn (i + e - 1)) else d (e + 1)

/-- unit constant polynomial -/
def e0 (n : Nat) : α := if n = 0 then 1 else 0

theorem e0_add (m a n : Nat) (hm : 0 < m) : (e0 (m * a + n) : α) = e0 a * e0 n := by
  unfold e0
  rcases Nat.eq_zero_or_pos a with rfl | ha
  · simp
  · have : m * a + n ≠ 0 := by have := Nat.mul_pos hm ha; omega
    rw [if_neg this, if_neg ha.ne', zero_mul]

section OneAxis
variable (x : α) (ax : Axis α) (i e : Nat) (der : Bool)

theorem ev_lin (u v : Nat → α) (s t : α) :
    ev x der (fun k => s * u k + t * v k) = s * ev x der u + t * ev x der v := by
  simp only [ev, sum4]; ring

theorem ev_mul_left (s : α) (u : Nat → α) : ev x der (fun k => s * u k) = s * ev x der u := by
  simp only [ev, sum4]; ring

theorem ev_congr (u v : Nat → α) (h : ∀ k, k < 4 → u k = v k) : ev x der u = ev x der v := by
  simp only [ev, sum4, h 0 (by norm_num), h 1 (by norm_num), h 2 (by norm_num), h 3 (by norm_num)]

theorem ev_e0_mul (s : α) : ev x der (fun k => e0 k * s) = if der then 0 else s := by
  cases der <;> simp [ev, sum4, comps, e0]

theorem ev_e0 : ev x der e0 = if der then 0 else 1 := by
  simpa using ev_e0_mul x der 1

theorem rhs_rescale (d : Nat → α) (s t : α) :
    rhs ax i e der (fun a => s * d a + t) = s * rhs ax i e der d + if der then 0 else t := by
  unfold rhs; split_ifs <;> ring

theorem rhs_add_mul (d d' : Nat → α) (s : α) :
    rhs ax i e der (fun a => d a + d' a * s) = rhs ax i e der d + rhs ax i e der d' * s := by
  unfold rhs; split_ifs <;> ring

theorem rhs_congr (d d' : Nat → α) (he : e < 2) (h : ∀ a, a < 4 → d a = d' a) :
    rhs ax i e der d = rhs ax i e der d' := by
  simp only [rhs, h e (by omega), h (e + 1) (by omega), h (e + 2) (by omega)]

end OneAxis

theorem row1_eq (ax : Axis α) (i : Nat) (d u : Nat → α) (l : Nat) :
    dot (row1 ax i d l).1 u = ev (ax.xn (i + l / 2)) (l % 2 == 1) u ∧
      (row1 ax i d l).2 = rhs ax i (l / 2) (l % 2 == 1) d := by
  rcases Nat.mod_two_eq_zero_or_one l with h | h <;>
    simp [row1, h, ev, rhs, dot, dotFrom, sum4, comps] <;> ring

def ev2 (x y : α) (xd yd : Bool) (c : Nat → α) : α := ev x xd fun a => ev y yd fun b => c (4 * a + b)

def ev3 (x y z : α) (xd yd zd : Bool) (c : Nat → α) : α := ev x xd fun a => ev2 y z yd zd fun n => c (16 * a + n)

def rhs2 (ax ay : Axis α) (cell : Nat × Nat) (ex ey : Nat) (xd yd : Bool) (D : Nat → Nat → α) : α :=
  rhs ax cell.1 ex xd fun a => rhs ay cell.2 ey yd (D a)

def rhs3 (ax ay az : Axis α) (cell : Nat × Nat × Nat) (ex ey ez : Nat) (xd yd zd : Bool)
    (D : Nat → Nat → Nat → α) : α :=
  rhs ax cell.1 ex xd fun a => rhs2 ay az cell.2 ey ez yd zd (D a)

section Iterated
variable (x y z : α) (ax ay az : Axis α) (cell : Nat × Nat) (cell3 : Nat × Nat × Nat) (ex ey ez : Nat) (xd yd zd : Bool)

theorem ev2_lin (c c' : Nat → α) (s t : α) :
    ev2 x y xd yd (fun n => s * c n + t * c' n) = s * ev2 x y xd yd c + t * ev2 x y xd yd c' := by
  simp only [ev2, ev_lin]

theorem ev3_lin (c c' : Nat → α) (s t : α) :
    ev3 x y z xd yd zd (fun n => s * c n + t * c' n) = s * ev3 x y z xd yd zd c + t * ev3 x y z xd yd zd c' := by
  simp only [ev3, ev2_lin, ev_lin]

theorem ev2_congr (c c' : Nat → α) (h : ∀ n, n < 16 → c n = c' n) : ev2 x y xd yd c = ev2 x y xd yd c' :=
  ev_congr _ _ _ _ fun a ha => ev_congr _ _ _ _ fun b hb => h _ (by omega)

theorem ev2_e0 : ev2 x y xd yd e0 = if xd || yd then 0 else 1 := by
  simp only [ev2, e0_add 4 _ _ (by norm_num), ev_mul_left, ev_e0_mul, ev_e0]
  cases xd <;> cases yd <;> rfl

theorem ev3_e0 : ev3 x y z xd yd zd e0 = if xd || yd || zd then 0 else 1 := by
  simp only [ev3, ev2, e0_add 16 _ _ (by norm_num), e0_add 4 _ _ (by norm_num), ev_mul_left, ev_e0_mul, ev_e0]
  cases xd <;> cases yd <;> cases zd <;> rfl

theorem rhs2_rescale (D : Nat → Nat → α) (s t : α) :
    rhs2 ax ay cell ex ey xd yd (fun a b => s * D a b + t)
      = s * rhs2 ax ay cell ex ey xd yd D + if xd || yd then 0 else t := by
  simp only [rhs2, rhs_rescale]
  cases xd <;> cases yd <;> rfl

theorem rhs3_rescale (D : Nat → Nat → Nat → α) (s t : α) :
    rhs3 ax ay az cell3 ex ey ez xd yd zd (fun a b k => s * D a b k + t)
      = s * rhs3 ax ay az cell3 ex ey ez xd yd zd D + if xd || yd || zd then 0 else t := by
  simp only [rhs3, rhs2_rescale, rhs_rescale]
  cases xd <;> cases yd <;> cases zd <;> rfl

theorem rhs2_congr (D D' : Nat → Nat → α) (hx : ex < 2) (hy : ey < 2)
    (h : ∀ a b, a < 4 → b < 4 → D a b = D' a b) :
    rhs2 ax ay cell ex ey xd yd D = rhs2 ax ay cell ex ey xd yd D' :=
  rhs_congr _ _ _ _ _ _ hx fun a ha => rhs_congr _ _ _ _ _ _ hy fun b hb => h a b ha hb

end Iterated

/-- which axes row kind `l % 4` differentiates: value, ∂x, ∂y, ∂xy -/
def kind2 (xd yd : Bool) : Nat := (if xd then 1 else 0) + (if yd then 2 else 0)

/-- which axes row kind `l % 8` differentiates: value, ∂x, ∂y, ∂z, ∂xy, ∂xz, ∂yz, ∂xyz -/
def kind3 : Bool → Bool → Bool → Nat
  | false, false, false => 0 | true, false, false => 1 | false, true, false => 2 | false, false, true => 3
  | true, true, false => 4 | true, false, true => 5 | false, true, true => 6 | true, true, true => 7

theorem kind2_lt (xd yd : Bool) : kind2 xd yd < 4 := by cases xd <;> cases yd <;> decide
theorem kind3_lt (xd yd zd : Bool) : kind3 xd yd zd < 8 := by cases xd <;> cases yd <;> cases zd <;> decide

theorem kind2_surj : ∀ k, k < 4 → ∃ xd yd, kind2 xd yd = k := by decide
theorem kind3_surj : ∀ k, k < 8 → ∃ xd yd zd, kind3 xd yd zd = k := by decide

theorem row2_eq (ax ay : Axis α) (cell : Nat × Nat) (D : Nat → Nat → α) (c : Nat → α) (knot : Nat) (xd yd : Bool) :
    dot (row2 ax ay cell D (4 * knot + kind2 xd yd)).1 c
        = ev2 (ax.xn (cell.1 + knot / 2)) (ay.xn (cell.2 + knot % 2)) xd yd c ∧
      (row2 ax ay cell D (4 * knot + kind2 xd yd)).2 = rhs2 ax ay cell (knot / 2) (knot % 2) xd yd D := by
  have hk := kind2_lt xd yd
  have h1 : (4 * knot + kind2 xd yd) / 4 = knot := by omega
  have h2 : (4 * knot + kind2 xd yd) % 4 = kind2 xd yd := by omega
  unfold row2
  simp only [h1, h2, rhs2, rhs]
  -- the differences stay atoms, so that `ring` can split the inverse of their product
  generalize ax.xn (cell.1 + knot / 2 + 1) - ax.xn (cell.1 + knot / 2 - 1) = dx
  generalize ay.xn (cell.2 + knot % 2 + 1) - ay.xn (cell.2 + knot % 2 - 1) = dy
  constructor <;> cases xd <;> cases yd <;>
    simp [kind2, ev2, ev, dot, dotFrom, sum4, comps] <;> ring

theorem dot_constraints3d (x y z : α) (xd yd zd : Bool) (c : Nat → α) :
    dot (constraints3d x y z xd yd zd) c = ev3 x y z xd yd zd c := by
  simp only [constraints3d, List.range_succ, List.range_zero, List.nil_append, List.flatMap_cons, List.flatMap_nil,
    List.map_cons, List.map_nil, List.cons_append, List.append_nil, dot, dotFrom,
    ev3, ev2, ev, sum4,
    -- distributing the nested sums gives the same 64 products in the same order (`ring` is twice as dear here)
    mul_add, mul_assoc, add_assoc, Nat.reduceMul, Nat.reduceAdd, add_zero, Nat.zero_add]

theorem row3_eq (ax ay az : Axis α) (cell : Nat × Nat × Nat) (D : Nat → Nat → Nat → α) (c : Nat → α) (knot : Nat)
    (xd yd zd : Bool) :
    dot (row3 ax ay az cell D (8 * knot + kind3 xd yd zd)).1 c
        = ev3 (ax.xn (cell.1 + knot / 4)) (ay.xn (cell.2.1 + knot / 2 % 2)) (az.xn (cell.2.2 + knot % 2)) xd yd zd c ∧
      (row3 ax ay az cell D (8 * knot + kind3 xd yd zd)).2
        = rhs3 ax ay az cell (knot / 4) (knot / 2 % 2) (knot % 2) xd yd zd D := by
  have hk := kind3_lt xd yd zd
  have h1 : (8 * knot + kind3 xd yd zd) / 8 = knot := by omega
  have h2 : (8 * knot + kind3 xd yd zd) % 8 = kind3 xd yd zd := by omega
  unfold row3
  simp only [h1, h2, rhs3, rhs2, rhs]
  generalize ax.xn (cell.1 + knot / 4 + 1) - ax.xn (cell.1 + knot / 4 - 1) = dx
  generalize ay.xn (cell.2.1 + knot / 2 % 2 + 1) - ay.xn (cell.2.1 + knot / 2 % 2 - 1) = dy
  generalize az.xn (cell.2.2 + knot % 2 + 1) - az.xn (cell.2.2 + knot % 2 - 1) = dz
  constructor <;> cases xd <;> cases yd <;> cases zd <;>
    simp [kind3, dot_constraints3d] <;> ring

/-- `c` satisfies every equation of the linear system `A c = b` (what a correct `solve` returns) -/
def Solves (A : List (List α)) (b : List α) (c : Nat → α) : Prop :=
  ∀ l, l < A.length → dot (A.getD l []) c = b.getD l 0

def IsSol1 (ax : Axis α) (i : Nat) (d c : Nat → α) : Prop :=
  ∀ l, l < 4 → dot (row1 ax i d l).1 c = (row1 ax i d l).2
def IsSol2 (ax ay : Axis α) (cell : Nat × Nat) (D : Nat → Nat → α) (c : Nat → α) : Prop :=
  ∀ l, l < 16 → dot (row2 ax ay cell D l).1 c = (row2 ax ay cell D l).2
def IsSol3 (ax ay az : Axis α) (cell : Nat × Nat × Nat) (D : Nat → Nat → Nat → α) (c : Nat → α) : Prop :=
  ∀ l, l < 64 → dot (row3 ax ay az cell D l).1 c = (row3 ax ay az cell D l).2

theorem isSol1_iff (ax : Axis α) (i : Nat) (d u : Nat → α) :
    IsSol1 ax i d u ↔ ∀ e, e < 2 → ∀ der, ev (ax.xn (i + e)) der u = rhs ax i e der d := by
  constructor
  · intro h e he der
    have := h (2 * e + if der then 1 else 0) (by cases der <;> simp <;> omega)
    rw [(row1_eq ax i d u _).1, (row1_eq ax i d u _).2] at this
    cases der <;> simpa [Nat.mul_add_div] using this
  · intro h l hl
    rw [(row1_eq ax i d u l).1, (row1_eq ax i d u l).2]
    exact h _ (by omega) _

theorem isSol2_iff (ax ay : Axis α) (cell : Nat × Nat) (D : Nat → Nat → α) (c : Nat → α) :
    IsSol2 ax ay cell D c ↔ ∀ ex ey, ex < 2 → ey < 2 → ∀ xd yd,
      ev2 (ax.xn (cell.1 + ex)) (ay.xn (cell.2 + ey)) xd yd c = rhs2 ax ay cell ex ey xd yd D := by
  constructor
  · intro h ex ey hx hy xd yd
    have := h (4 * (2 * ex + ey) + kind2 xd yd) (by have := kind2_lt xd yd; omega)
    rw [(row2_eq ax ay cell D c _ xd yd).1, (row2_eq ax ay cell D c _ xd yd).2] at this
    rwa [show (2 * ex + ey) / 2 = ex by omega, show (2 * ex + ey) % 2 = ey by omega] at this
  · intro h l hl
    obtain ⟨xd, yd, hk⟩ := kind2_surj (l % 4) (by omega)
    have hk : l = 4 * (l / 4) + kind2 xd yd := by omega
    rw [hk, (row2_eq ax ay cell D c _ xd yd).1, (row2_eq ax ay cell D c _ xd yd).2]
    exact h _ _ (by omega) (by omega) _ _

theorem isSol3_iff (ax ay az : Axis α) (cell : Nat × Nat × Nat) (D : Nat → Nat → Nat → α) (c : Nat → α) :
    IsSol3 ax ay az cell D c ↔ ∀ ex ey ez, ex < 2 → ey < 2 → ez < 2 → ∀ xd yd zd,
      ev3 (ax.xn (cell.1 + ex)) (ay.xn (cell.2.1 + ey)) (az.xn (cell.2.2 + ez)) xd yd zd c
        = rhs3 ax ay az cell ex ey ez xd yd zd D := by
  constructor
  · intro h ex ey ez hx hy hz xd yd zd
    have := h (8 * (4 * ex + 2 * ey + ez) + kind3 xd yd zd) (by have := kind3_lt xd yd zd; omega)
    rw [(row3_eq ax ay az cell D c _ xd yd zd).1, (row3_eq ax ay az cell D c _ xd yd zd).2] at this
    rwa [show (4 * ex + 2 * ey + ez) / 4 = ex by omega, show (4 * ex + 2 * ey + ez) / 2 % 2 = ey by omega,
      show (4 * ex + 2 * ey + ez) % 2 = ez by omega] at this
  · intro h l hl
    obtain ⟨xd, yd, zd, hk⟩ := kind3_surj (l % 8) (by omega)
    have hk : l = 8 * (l / 8) + kind3 xd yd zd := by omega
    rw [hk, (row3_eq ax ay az cell D c _ xd yd zd).1, (row3_eq ax ay az cell D c _ xd yd zd).2]
    exact h _ _ _ (by omega) (by omega) (by omega) _ _ _

theorem getD_range_map {β : Type} (f : Nat → β) (n l : Nat) (hl : l < n) (dflt : β) :
    ((List.range n).map f).getD l dflt = f l := by
  simp [List.getD, hl]

theorem solves_range_map (n : Nat) (row : Nat → List α × α) (c : Nat → α) :
    Solves (((List.range n).map row).map (·.1)) (((List.range n).map row).map (·.2)) c
      ↔ ∀ l, l < n → dot (row l).1 c = (row l).2 := by
  unfold Solves
  simp only [List.map_map, List.length_map, List.length_range]
  constructor <;> intro h l hl <;> have := h l hl <;> simpa [hl] using this

section Systems
variable (ax ay az : Axis α) (i : Nat) (cell : Nat × Nat) (cell3 : Nat × Nat × Nat) (d : Nat → α) (D : Nat → Nat → α)
  (D3 : Nat → Nat → Nat → α) (c : Nat → α)

theorem solves_system1 : Solves (system1 ax i d).1 (system1 ax i d).2 c ↔ IsSol1 ax i d c := solves_range_map 4 _ c

theorem solves_system2 : Solves (system2 ax ay cell D).1 (system2 ax ay cell D).2 c ↔ IsSol2 ax ay cell D c :=
  solves_range_map 16 _ c

theorem solves_system3 : Solves (system3 ax ay az cell3 D3).1 (system3 ax ay az cell3 D3).2 c ↔ IsSol3 ax ay az cell3 D3 c :=
  solves_range_map 64 _ c

end Systems

theorem hom1 (x : Nat → α) (hne : x 0 ≠ x 1) (g : Nat → α) (h : ∀ e, e < 2 → ∀ der, ev (x e) der g = 0) :
    ∀ k, k < 4 → g k = 0 := by
  have hh : x 1 - x 0 ≠ 0 := sub_ne_zero.mpr hne.symm
  have v0 := h 0 (by norm_num) false
  have d0 := h 0 (by norm_num) true
  have v1 := h 1 (by norm_num) false
  have d1 := h 1 (by norm_num) true
  simp [ev, comps, sum4] at v0 d0 v1 d1
  have g3 : g 3 = 0 := (mul_eq_zero.mp (show (x 1 - x 0) ^ 3 * g 3 = 0 by
    linear_combination (x 1 - x 0) * d0 + (x 1 - x 0) * d1 - 2 * v1 + 2 * v0)).resolve_left (pow_ne_zero 3 hh)
  have g2 : g 2 = 0 := (mul_eq_zero.mp (show (x 1 - x 0) * g 2 = 0 by
    rw [g3] at d0 d1; linear_combination (d1 - d0) / 2)).resolve_left hh
  have g1 : g 1 = 0 := by rw [g2, g3] at d0; linear_combination d0
  have g0 : g 0 = 0 := by rw [g1, g2, g3] at v0; linear_combination v0
  intro k hk
  interval_cases k <;> assumption

/-- tensor product of two nonsingular 1-D systems is nonsingular: eliminate along x, then along y -/
theorem hom2 (x y : Nat → α) (hx : x 0 ≠ x 1) (hy : y 0 ≠ y 1) (c : Nat → α)
    (h : ∀ ex ey, ex < 2 → ey < 2 → ∀ xd yd, ev2 (x ex) (y ey) xd yd c = 0) : ∀ n, n < 16 → c n = 0 := by
  intro n hn
  have := hom1 y hy (fun b => c (4 * (n / 4) + b)) (fun ey hey yd =>
    hom1 x hx (fun a => ev (y ey) yd fun b => c (4 * a + b)) (fun ex hex xd => h ex ey hex hey xd yd) _ (by omega))
    (n % 4) (by omega)
  rwa [Nat.div_add_mod] at this

theorem hom3 (x y z : Nat → α) (hx : x 0 ≠ x 1) (hy : y 0 ≠ y 1) (hz : z 0 ≠ z 1) (c : Nat → α)
    (h : ∀ ex ey ez, ex < 2 → ey < 2 → ez < 2 → ∀ xd yd zd, ev3 (x ex) (y ey) (z ez) xd yd zd c = 0) :
    ∀ n, n < 64 → c n = 0 := by
  intro n hn
  have := hom2 y z hy hz (fun m => c (16 * (n / 16) + m)) (fun ey ez hey hez yd zd =>
    hom1 x hx (fun a => ev2 (y ey) (z ez) yd zd fun m => c (16 * a + m))
      (fun ex hex xd => h ex ey ez hex hey hez xd yd zd) _ (by omega)) (n % 16) (by omega)
  rwa [Nat.div_add_mod] at this

section Unique
variable (ax ay az : Axis α) (i : Nat) (cell : Nat × Nat) (cell3 : Nat × Nat × Nat) (d : Nat → α) (D : Nat → Nat → α)
  (D3 : Nat → Nat → Nat → α) (c c' : Nat → α)

theorem unique1 (hne : ax.xn i ≠ ax.xn (i + 1)) (h : IsSol1 ax i d c) (h' : IsSol1 ax i d c') :
    ∀ k, k < 4 → c k = c' k := by
  rw [isSol1_iff] at h h'
  intro k hk
  have := hom1 (fun e => ax.xn (i + e)) hne (fun n => 1 * c n + (-1) * c' n)
    (fun e he der => by rw [ev_lin, h e he, h' e he]; ring) k hk
  linear_combination this

theorem unique2 (hx : ax.xn cell.1 ≠ ax.xn (cell.1 + 1)) (hy : ay.xn cell.2 ≠ ay.xn (cell.2 + 1))
    (h : IsSol2 ax ay cell D c) (h' : IsSol2 ax ay cell D c') : ∀ k, k < 16 → c k = c' k := by
  rw [isSol2_iff] at h h'
  intro k hk
  have := hom2 (fun e => ax.xn (cell.1 + e)) (fun e => ay.xn (cell.2 + e)) hx hy (fun n => 1 * c n + (-1) * c' n)
    (fun ex ey hex hey xd yd => by rw [ev2_lin, h ex ey hex hey, h' ex ey hex hey]; ring) k hk
  linear_combination this

theorem unique3 (hx : ax.xn cell3.1 ≠ ax.xn (cell3.1 + 1)) (hy : ay.xn cell3.2.1 ≠ ay.xn (cell3.2.1 + 1))
    (hz : az.xn cell3.2.2 ≠ az.xn (cell3.2.2 + 1))
    (h : IsSol3 ax ay az cell3 D3 c) (h' : IsSol3 ax ay az cell3 D3 c') : ∀ k, k < 64 → c k = c' k := by
  rw [isSol3_iff] at h h'
  intro k hk
  have := hom3 (fun e => ax.xn (cell3.1 + e)) (fun e => ay.xn (cell3.2.1 + e)) (fun e => az.xn (cell3.2.2 + e)) hx hy hz
    (fun n => 1 * c n + (-1) * c' n)
    (fun ex ey ez hex hey hez xd yd zd => by
      rw [ev3_lin, h ex ey ez hex hey hez, h' ex ey ez hex hey hez]; ring) k hk
  linear_combination this

end Unique

end Cherab.Caching
