import Cherab.Model.Groups
import Mathlib.Data.List.Nodup
import Mathlib.Data.List.TakeWhile

/-!
# Helper lemmas and specification vocabulary for C15 (observer groups)

Heap updates; the two assignment loops of the group setters (`assignAll`, `assignZip`) and the frame they respect; what
a setter body, a member-list assignment and an operation of the group API run once the case distinctions of the
interpreter are made (`Setter.run_cases`, `MemberSetter.run_cases`, `step_cases`); unpacking of the decidable
well-formedness predicates; the membership invariant; Python indexing/slicing.
The property theorems are in `Cherab/Props/C15.lean`.
-/
namespace Cherab.Groups

section
variable {h : Heap} {u v : Nat} {a b : Attr} {x : Nat} {p : Option Nat}

@[simp] theorem setAttr_attrs_same : ((h.setAttr u a x) u).attrs a = x := by
  simp [Heap.setAttr, Obs.set]

theorem setAttr_attrs_other (hne : b ≠ a ∨ v ≠ u) : ((h.setAttr u a x) v).attrs b = (h v).attrs b := by
  unfold Heap.setAttr
  by_cases hv : v = u
  · subst hv
    rcases hne with hne | hne
    · simp [Obs.set, hne]
    · exact absurd rfl hne
  · simp [hv]

@[simp] theorem setAttr_parent : ((h.setAttr u a x) v).parent = (h v).parent := by
  unfold Heap.setAttr; by_cases hv : v = u <;> simp [hv, Obs.set]

@[simp] theorem setAttr_types : ((h.setAttr u a x) v).types = (h v).types := by
  unfold Heap.setAttr; by_cases hv : v = u <;> simp [hv, Obs.set]

@[simp] theorem setParent_attrs : ((h.setParent u p) v).attrs = (h v).attrs := by
  unfold Heap.setParent; by_cases hv : v = u <;> simp [hv]

@[simp] theorem setParent_types : ((h.setParent u p) v).types = (h v).types := by
  unfold Heap.setParent; by_cases hv : v = u <;> simp [hv]

@[simp] theorem setParent_parent_same : ((h.setParent u p) u).parent = p := by
  simp [Heap.setParent]

theorem setParent_parent_other (hv : v ≠ u) : ((h.setParent u p) v).parent = (h v).parent := by
  simp [Heap.setParent, hv]

end

/-- "nothing but attribute `a` of the objects in `us` changed" -/
def Frame (a : Attr) (us : List Nat) (h h' : Heap) : Prop :=
  (∀ u b, (b ≠ a ∨ u ∉ us) → (h' u).attrs b = (h u).attrs b) ∧
  (∀ u, (h' u).parent = (h u).parent ∧ (h' u).types = (h u).types)

theorem Frame.refl (a : Attr) (us : List Nat) (h : Heap) : Frame a us h h :=
  ⟨fun _ _ _ => rfl, fun _ => ⟨rfl, rfl⟩⟩

theorem Frame.cons {a : Attr} {u : Nat} {us : List Nat} {h h' : Heap} {x : Nat}
    (f : Frame a us (h.setAttr u a x) h') : Frame a (u :: us) h h' := by
  refine ⟨fun w b hb => ?_, fun w => ?_⟩
  · rw [f.1 w b (hb.imp_right fun hw hm => hw (List.mem_cons_of_mem _ hm))]
    exact setAttr_attrs_other (hb.imp_right fun hw e => hw (e ▸ List.mem_cons_self))
  · exact ⟨(f.2 w).1.trans setAttr_parent, (f.2 w).2.trans setAttr_types⟩

/-- the member's own setter accepts `o`, and the group's `isinstance(·, RenderEngine)` guard (if any) lets it pass -/
def Passes (chk : Bool) (o : Obj) : Prop := o.rej = none ∧ (chk = true → o.engine = true)

theorem Passes.guard {chk : Bool} {o : Obj} (ho : Passes chk o) : (chk && !o.engine) = false := by
  cases hc : chk
  · rfl
  · rw [ho.2 hc]; rfl

theorem assignAll_cons (a : Attr) (o : Obj) (ho : o.rej = none) (u : Nat) (us : List Nat) (h : Heap) :
    assignAll a o (u :: us) h = assignAll a o us (h.setAttr u a o.stored) := by
  simp only [assignAll, ho]

theorem assignAll_frame (a : Attr) (o : Obj) (us : List Nat) (h : Heap) : Frame a us h (assignAll a o us h).1 := by
  induction us generalizing h with
  | nil => exact Frame.refl _ _ _
  | cons u us ih =>
    cases hr : o.rej with
    | some e => simp only [assignAll, hr]; exact Frame.refl _ _ _
    | none => rw [assignAll_cons a o hr]; exact (ih _).cons

theorem assignAll_noerr (a : Attr) (o : Obj) (ho : o.rej = none) (us : List Nat) (h : Heap) :
    (assignAll a o us h).2 = none := by
  induction us generalizing h with
  | nil => rfl
  | cons u us ih => rw [assignAll_cons a o ho]; exact ih _

/-- the broadcast loop hands the same object to every member, so it raises at the first member or not at all -/
theorem assignAll_err_unchanged (a : Attr) (o : Obj) (us : List Nat) (h : Heap) (he : (assignAll a o us h).2 ≠ none) :
    (assignAll a o us h).1 = h := by
  cases hr : o.rej with
  | none => exact absurd (assignAll_noerr a o hr us h) he
  | some e =>
    cases us with
    | nil => rfl
    | cons u us => simp only [assignAll, hr]

theorem assignAll_mem (a : Attr) (o : Obj) (ho : o.rej = none) (us : List Nat) (h : Heap) :
    ∀ u ∈ us, ((assignAll a o us h).1 u).attrs a = o.stored := by
  induction us generalizing h with
  | nil => intro u hu; cases hu
  | cons x us ih =>
    rw [assignAll_cons a o ho]
    intro u hu
    by_cases hux : u ∈ us
    · exact ih _ u hux
    · obtain rfl : u = x := (List.mem_cons.mp hu).resolve_right hux
      rw [(assignAll_frame a o us _).1 u a (Or.inr hux), setAttr_attrs_same]

section
variable {a : Attr} {chk : Bool} {e : Err} {us : List Nat} {os : List Obj} {h : Heap}

theorem assignZip_cons {u : Nat} {o : Obj} (ho : Passes chk o) :
    assignZip a chk e (u :: us) (o :: os) h = assignZip a chk e us os (h.setAttr u a o.stored) := by
  simp only [assignZip, ho.guard, ho.1, Bool.false_eq_true, if_false]

theorem assignZip_frame : Frame a us h (assignZip a chk e us os h).1 := by
  induction us generalizing os h with
  | nil => cases os <;> exact Frame.refl _ _ _
  | cons u us ih =>
    cases os with
    | nil => exact Frame.refl _ _ _
    | cons o os =>
      simp only [assignZip]
      split
      · exact Frame.refl _ _ _
      · split
        · exact Frame.refl _ _ _
        · exact ih.cons

theorem assignZip_noerr (hok : ∀ o ∈ os, Passes chk o) : (assignZip a chk e us os h).2 = none := by
  induction us generalizing os h with
  | nil => cases os <;> rfl
  | cons u us ih =>
    cases os with
    | nil => rfl
    | cons o os =>
      rw [assignZip_cons (hok o List.mem_cons_self)]
      exact ih fun o' ho' => hok o' (List.mem_cons_of_mem _ ho')

/-- `hnd`: a member listed twice would keep the later of its two elements -/
theorem assignZip_read (hok : ∀ o ∈ os, Passes chk o) (hnd : us.Nodup) (hlen : os.length = us.length) :
    us.map (fun u => ((assignZip a chk e us os h).1 u).attrs a) = os.map (·.stored) := by
  induction us generalizing os h with
  | nil => rw [List.length_eq_zero_iff.mp hlen]; rfl
  | cons u us ih =>
    cases os with
    | nil => cases hlen
    | cons o os =>
      obtain ⟨hu, hnd'⟩ := List.nodup_cons.mp hnd
      rw [assignZip_cons (hok o List.mem_cons_self), List.map_cons, List.map_cons,
        assignZip_frame.1 u a (Or.inr hu), setAttr_attrs_same,
        ih (fun o' ho' => hok o' (List.mem_cons_of_mem _ ho')) hnd' (Nat.succ.inj hlen)]

end

/-- the sequence kinds the setter of `d` recognises (`list`, `tuple`, and `ndarray` where the source names it) -/
def kindsOf (d : Descriptor) : List SeqKind :=
  match d.setter with
  | some (.broadcast s) =>
    (match s.test with
     | .isinst ks => ks
     | .allItems ks => ks
     | .sized => [])
  | _ => []

/-- `isinstance(v, RenderEngine)` guard in the element-wise loop -/
def elemChk (d : Descriptor) : Bool :=
  match d.setter with
  | some (.broadcast s) => s.elemEngineCheck
  | _ => false

/-- `isinstance(value, RenderEngine)` guard in front of the broadcast loop -/
def scalarChk (d : Descriptor) : Bool :=
  match d.setter with
  | some (.broadcast s) =>
    (match s.orelse with
     | .broadcast _ c _ => c
     | _ => false)
  | _ => false

/-- the member attribute the public attribute `d.name` stands for -/
abbrev memberAttr (d : Descriptor) : Attr := expectedMember d.name

/-- `value` is treated as a sequence by `d`'s setter -/
abbrev IsSeq (d : Descriptor) (v : Val) : Prop := kindIn v.obj.kind (kindsOf d) = true

theorem kindsOf_isinst {d : Descriptor} {s : Setter} {ks : List SeqKind} (hs : d.setter = some (.broadcast s))
    (ht : s.test = .isinst ks) : kindsOf d = ks := by
  simp only [kindsOf, hs, ht]

theorem kindsOf_allItems {d : Descriptor} {s : Setter} {ks : List SeqKind} (hs : d.setter = some (.broadcast s))
    (ht : s.test = .allItems ks) : kindsOf d = ks := by
  simp only [kindsOf, hs, ht]

theorem isSeq_of_isinst {d : Descriptor} {s : Setter} {ks : List SeqKind} (hs : d.setter = some (.broadcast s))
    (ht : s.test = .isinst ks) (hks : hasListTuple ks = true) {v : Val}
    (hv : v.obj.kind = some .list ∨ v.obj.kind = some .tuple) : IsSeq d v := by
  unfold IsSeq
  rw [kindsOf_isinst hs ht]
  simp only [hasListTuple, Bool.and_eq_true] at hks
  rcases hv with hv | hv
  · rw [hv]; exact hks.1
  · rw [hv]; exact hks.2

theorem elemChk_eq {d : Descriptor} {s : Setter} (hs : d.setter = some (.broadcast s)) : elemChk d = s.elemEngineCheck := by
  simp only [elemChk, hs]

theorem scalarChk_eq {d : Descriptor} {s : Setter} {a : Attr} {chk : Bool} {err : Err} (hs : d.setter = some (.broadcast s))
    (ho : s.orelse = .broadcast a chk err) : scalarChk d = chk := by
  simp only [scalarChk, hs, ho]

/-- outcome record of an assignment that succeeded and wrote `xs` (one value per member) into attribute `a` -/
structure Wrote (a : Attr) (w w' : World) (xs : List Nat) : Prop where
  members : w'.members = w.members
  gid : w'.gid = w.gid
  read : readEach w' a = xs
  frame : Frame a w.members w.heap w'.heap

theorem getAttr_each {d : Descriptor} {a : Attr} (hg : d.getter = .each a) (w : World) :
    getAttr d w = .vals (w.members.map fun u => (w.heap u).attrs a) := by
  simp only [getAttr, hg, readEach]

theorem readEach_of_frame {a b : Attr} {w w' : World} (hm : w'.members = w.members)
    (f : Frame a w.members w.heap w'.heap) (hb : b ≠ a) : readEach w' b = readEach w b := by
  unfold readEach
  rw [hm]
  exact List.map_congr_left fun u _ => f.1 u b (Or.inl hb)

theorem Wrote.each {a : Attr} {w w' : World} {x : Nat} (h : Wrote a w w' (List.replicate w.members.length x)) :
    ∀ u ∈ w.members, (w'.heap u).attrs a = x := by
  intro u hu
  have hr : (w'.heap u).attrs a ∈ readEach w' a := List.mem_map_of_mem (h.members ▸ hu)
  rw [h.read] at hr
  exact (List.mem_replicate.mp hr).2

theorem Wrote.nth {a : Attr} {w w' : World} {xs : List Nat} (h : Wrote a w w' xs) :
    ∀ i (h1 : i < w.members.length) (h2 : i < xs.length), (w'.heap w.members[i]).attrs a = xs[i] := by
  intro i h1 h2
  obtain ⟨hm, _, rfl, _⟩ := h
  simp [readEach, hm]

theorem World.ext' {w w' : World} (hg : w'.gid = w.gid) (hm : w'.members = w.members)
    (hh : ∀ u, (∀ b, (w'.heap u).attrs b = (w.heap u).attrs b) ∧ (w'.heap u).parent = (w.heap u).parent ∧
      (w'.heap u).types = (w.heap u).types) : w' = w := by
  obtain ⟨g, h, m⟩ := w
  obtain ⟨g', h', m'⟩ := w'
  simp only at hg hm hh
  subst hg hm
  congr
  funext u
  obtain ⟨ha, hp, ht⟩ := hh u
  show Obs.mk _ _ _ = Obs.mk _ _ _
  rw [funext ha, hp, ht]

theorem Wrote.again {a : Attr} {w w' w'' : World} {xs : List Nat} (h1 : Wrote a w w' xs) (h2 : Wrote a w' w'' xs) : w'' = w' := by
  refine World.ext' h2.gid h2.members fun u => ?_
  refine ⟨?_, (h2.frame.2 u).1, (h2.frame.2 u).2⟩
  intro b
  by_cases hb : b ≠ a ∨ u ∉ w'.members
  · exact h2.frame.1 u b hb
  · rw [not_or, not_not, not_not] at hb
    obtain ⟨rfl, hu⟩ := hb
    have e : readEach w'' b = readEach w' b := by rw [h2.read, h1.read]
    unfold readEach at e
    rw [h2.members] at e
    exact List.map_inj_left.mp e u hu

theorem setAttr_broadcast {d : Descriptor} {s : Setter} (hs : d.setter = some (.broadcast s)) (w : World) (v : Val) :
    setAttr d w v = s.run w v := by
  simp only [setAttr, hs]

theorem Setter.run_isinst {s : Setter} {ks : List SeqKind} (ht : s.test = .isinst ks) (w : World) (v : Val) :
    s.run w v = if kindIn v.obj.kind ks then seqBranch s w v else elseBranch s w v := by
  simp only [Setter.run, ht]

theorem setAttr_isinst {d : Descriptor} {s : Setter} {ks : List SeqKind} (hs : d.setter = some (.broadcast s))
    (ht : s.test = .isinst ks) (w : World) (v : Val) :
    setAttr d w v = if kindIn v.obj.kind (kindsOf d) then seqBranch s w v else elseBranch s w v := by
  rw [setAttr_broadcast hs, Setter.run_isinst ht, kindsOf_isinst hs ht]

theorem Setter.run_sized {s : Setter} (ht : s.test = .sized) (w : World) {v : Val} (hk : v.obj.kind ≠ none) :
    s.run w v = seqBranch s w v := by
  obtain ⟨k, hk⟩ := Option.ne_none_iff_exists'.mp hk
  simp only [Setter.run, ht, hk]

theorem Setter.run_allItems {s : Setter} {ks : List SeqKind} (ht : s.test = .allItems ks) (w : World) {v : Val}
    (hk : v.obj.kind ≠ none) :
    s.run w v = if v.items.all (fun o => kindIn o.kind ks) then seqBranch s w v else elseBranch s w v := by
  obtain ⟨k, hk⟩ := Option.ne_none_iff_exists'.mp hk
  simp only [Setter.run, ht, hk]

/-- `len()` of, or iteration over, something that is not a sequence -/
theorem Setter.run_unsized {s : Setter} (ht : ∀ ks, s.test ≠ .isinst ks) (w : World) {v : Val} (hk : v.obj.kind = none) :
    s.run w v = (w, some .typeError) := by
  unfold Setter.run
  split
  · exact absurd ‹_› (ht _)
  · simp only [hk]
  · simp only [hk]

section
variable (s : Setter) (w : World) (v : Val)

/-- `noop` also takes `e = none`: a setter without `else` branch (`Else.absent`) falls through without raising -/
theorem Setter.run_cases {P : World × Option Err → Prop} (noop : ∀ e, P (w, e))
    (zip : P (w.withHeap (assignZip s.seqAttr s.elemEngineCheck s.elemErr w.members v.items w.heap)))
    (all : ∀ a, P (w.withHeap (assignAll a v.obj w.members w.heap))) : P (s.run w v) := by
  have seq : P (seqBranch s w v) := by
    unfold seqBranch
    split
    · exact noop _
    · exact zip
  have els : P (elseBranch s w v) := by
    unfold elseBranch
    split
    · split
      · exact noop _
      · exact all _
    · exact noop _
    · exact noop _
  unfold Setter.run
  split
  · split <;> assumption
  · split
    · exact noop _
    · exact seq
  · split
    · exact noop _
    · split <;> assumption

theorem seqBranch_wrong_length (hl : s.lenCheck = true)
    (hlen : v.items.length ≠ w.members.length) : seqBranch s w v = (w, some s.lenErr) := by
  simp [seqBranch, hl, hlen]

theorem seqBranch_ok (hlen : v.items.length = w.members.length)
    (hok : ∀ o ∈ v.items, Passes s.elemEngineCheck o) (hnd : w.members.Nodup) :
    (seqBranch s w v).2 = none ∧ Wrote s.seqAttr w (seqBranch s w v).1 (v.items.map (·.stored)) := by
  have hb : (s.lenCheck && v.items.length != w.members.length) = false := by simp [hlen]
  simp only [seqBranch, hb, World.withHeap, Bool.false_eq_true, if_false]
  exact ⟨assignZip_noerr hok, rfl, rfl, assignZip_read hok hnd hlen, assignZip_frame⟩

theorem elseBranch_broadcast_ok {a : Attr} {chk : Bool} {err : Err} (hs : s.orelse = .broadcast a chk err)
    (hok : Passes chk v.obj) :
    (elseBranch s w v).2 = none ∧ Wrote a w (elseBranch s w v).1 (List.replicate w.members.length v.obj.stored) := by
  simp only [elseBranch, hs, hok.guard, World.withHeap, Bool.false_eq_true, if_false]
  refine ⟨assignAll_noerr a v.obj hok.1 _ _, rfl, rfl,
    List.eq_replicate_iff.mpr ⟨List.length_map _, fun b hb => ?_⟩, assignAll_frame _ _ _ _⟩
  obtain ⟨u, hu, rfl⟩ := List.mem_map.mp hb
  exact assignAll_mem a v.obj hok.1 _ _ u hu

/-- no setter body ever changes membership, parents or types, and it writes at most one member attribute of members
(true for *every* descriptor, well-formed or not, and also when an exception interrupts a loop) -/
theorem Setter.run_frame :
    (s.run w v).1.members = w.members ∧ (s.run w v).1.gid = w.gid ∧
    ∃ a, Frame a w.members w.heap (s.run w v).1.heap :=
  s.run_cases (P := fun r => r.1.members = w.members ∧ r.1.gid = w.gid ∧ ∃ a, Frame a w.members w.heap r.1.heap) w v
    (fun _ => ⟨rfl, rfl, "", Frame.refl _ _ _⟩) ⟨rfl, rfl, _, assignZip_frame⟩
    (fun a => ⟨rfl, rfl, a, assignAll_frame _ _ _ _⟩)

/-- whatever the descriptor looks like: over elements that pass, the zip loop raises nothing, and the broadcast loop offers
every member the same object, so it raises at the first member or not at all.  Without `hok`:
`Cherab.Props.C15.engine_guard_in_loop_partial`. -/
theorem Setter.run_err_unchanged (hok : ∀ o ∈ v.items, Passes s.elemEngineCheck o)
    (he : (s.run w v).2 ≠ none) : (s.run w v).1 = w := by
  refine s.run_cases (P := fun r => r.2 ≠ none → r.1 = w) w v (fun _ _ => rfl) ?_ ?_ he
  · exact fun he => absurd (assignZip_noerr hok) he
  · intro a he
    show { w with heap := _ } = w
    rw [assignAll_err_unchanged a v.obj _ _ he]

end

/-! ### unpacking the decidable well-formedness predicates

Each predicate is a `match` on getter and setter (and on the setter's test and `else`) whose other arms are `false`. -/

theorem each_broadcast_of {d : Descriptor} {B : Attr → Setter → Bool}
    (h : (match d.getter, d.setter with
      | .each a, some (.broadcast s) => B a s
      | _, _ => false) = true) :
    ∃ a s, d.getter = .each a ∧ d.setter = some (.broadcast s) ∧ B a s = true := by
  split at h
  · exact ⟨_, _, ‹_›, ‹_›, h⟩
  · cases h

theorem isinst_of {t : Test} {f : List SeqKind → Bool}
    (h : (match t with
      | .isinst ks => f ks
      | _ => false) = true) : ∃ ks, t = .isinst ks ∧ f ks = true := by
  split at h
  · exact ⟨_, rfl, h⟩
  · cases h

theorem allItems_of {t : Test} {f : List SeqKind → Bool}
    (h : (match t with
      | .allItems ks => f ks
      | _ => false) = true) : ∃ ks, t = .allItems ks ∧ f ks = true := by
  split at h
  · exact ⟨_, rfl, h⟩
  · cases h

theorem broadcast_of {o : Else} {f : Attr → Bool → Err → Bool}
    (h : (match o with
      | .broadcast a c e => f a c e
      | _ => false) = true) : ∃ a c e, o = .broadcast a c e ∧ f a c e = true := by
  split at h
  · exact ⟨_, _, _, rfl, h⟩
  · cases h

structure WFB (d : Descriptor) (s : Setter) (ks : List SeqKind) (chk : Bool) (err : Err) : Prop where
  getter : d.getter = .each (memberAttr d)
  setter : d.setter = some (.broadcast s)
  test : s.test = .isinst ks
  kinds : hasListTuple ks = true
  lenCheck : s.lenCheck = true
  lenErr : s.lenErr = .valueError
  seqAttr : s.seqAttr = memberAttr d
  orelse : s.orelse = .broadcast (memberAttr d) chk err
  bound : s.fnName = d.name ∧ s.decTarget = d.name ∧ d.getterFn = d.name

theorem wfBroadcast_unpack (d : Descriptor) (h : d.wfBroadcast = true) : ∃ s ks chk err, WFB d s ks chk err := by
  obtain ⟨a, s, hg, hs, h⟩ := each_broadcast_of h
  simp only [Bool.and_eq_true] at h
  obtain ⟨⟨⟨⟨⟨⟨⟨⟨ha, hgf⟩, hfn⟩, hdt⟩, hlc⟩, hle⟩, hsa⟩, htest⟩, hor⟩ := h
  obtain ⟨ks, ht, hks⟩ := isinst_of htest
  obtain ⟨a', chk, err, ho, haa⟩ := broadcast_of hor
  obtain rfl := eq_of_beq haa
  obtain rfl := eq_of_beq ha
  exact ⟨s, ks, chk, err, hg, hs, ht, hks, hlc, eq_of_beq hle, eq_of_beq hsa, ho, eq_of_beq hfn, eq_of_beq hdt, eq_of_beq hgf⟩

/-- what the three special shapes (`wfSeqOnly`, `wfLenOnly`, `wfAllSeq`) share -/
structure Core (d : Descriptor) (s : Setter) : Prop where
  getter : d.getter = .each (memberAttr d)
  setter : d.setter = some (.broadcast s)
  lenCheck : s.lenCheck = true
  lenErr : s.lenErr = .valueError
  seqAttr : s.seqAttr = memberAttr d
  noElemChk : s.elemEngineCheck = false

theorem Core.read {d : Descriptor} {s : Setter} (h : Core d s) (w : World) :
    getAttr d w = .vals (w.members.map fun u => (w.heap u).attrs (memberAttr d)) :=
  getAttr_each h.getter w

theorem Core.seq_ok {d : Descriptor} {s : Setter} (h : Core d s) (w : World) (v : Val)
    (hlen : v.items.length = w.members.length) (hok : ∀ o ∈ v.items, o.rej = none) (hnd : w.members.Nodup) :
    (seqBranch s w v).2 = none ∧ Wrote (memberAttr d) w (seqBranch s w v).1 (v.items.map (·.stored)) := by
  have := seqBranch_ok s w v hlen (fun o ho => ⟨hok o ho, by simp [h.noElemChk]⟩) hnd
  rwa [h.seqAttr] at this

theorem Core.seq_wrong {d : Descriptor} {s : Setter} (h : Core d s) (w : World) (v : Val)
    (hlen : v.items.length ≠ w.members.length) : seqBranch s w v = (w, some .valueError) := by
  rw [seqBranch_wrong_length s w v h.lenCheck hlen, h.lenErr]

/-- the checks the three special shapes open with -/
theorem Core.of_checks {d : Descriptor} {s : Setter} {a : Attr} (hg : d.getter = .each a) (hs : d.setter = some (.broadcast s))
    (h : (a == expectedMember d.name && d.getterFn == d.name && s.fnName == d.name && s.decTarget == d.name &&
      s.lenCheck && s.lenErr == .valueError && s.seqAttr == a && !s.elemEngineCheck) = true) :
    a = memberAttr d ∧ Core d s := by
  simp only [Bool.and_eq_true, Bool.not_eq_true', beq_iff_eq] at h
  obtain ⟨⟨⟨⟨⟨⟨⟨rfl, _⟩, _⟩, _⟩, hlc⟩, hle⟩, hsa⟩, hec⟩ := h
  exact ⟨rfl, hg, hs, hlc, hle, hsa, hec⟩

theorem wfSeqOnly_unpack (d : Descriptor) (h : d.wfSeqOnly = true) :
    ∃ s ks, Core d s ∧ s.test = .isinst ks ∧ hasListTuple ks = true ∧ s.orelse = .raise .typeError := by
  obtain ⟨a, s, hg, hs, h⟩ := each_broadcast_of h
  rw [Bool.and_eq_true, Bool.and_eq_true] at h
  obtain ⟨ks, ht, hks⟩ := isinst_of h.1.2
  exact ⟨s, ks, (Core.of_checks hg hs h.1.1).2, ht, hks, eq_of_beq h.2⟩

theorem wfLenOnly_unpack (d : Descriptor) (h : d.wfLenOnly = true) : ∃ s, Core d s ∧ s.test = .sized := by
  obtain ⟨a, s, hg, hs, h⟩ := each_broadcast_of h
  rw [Bool.and_eq_true] at h
  exact ⟨s, (Core.of_checks hg hs h.1).2, eq_of_beq h.2⟩

theorem wfAllSeq_unpack (d : Descriptor) (h : d.wfAllSeq = true) :
    ∃ s ks err, Core d s ∧ s.test = .allItems ks ∧ hasListTuple ks = true ∧ s.orelse = .broadcast (memberAttr d) false err := by
  obtain ⟨a, s, hg, hs, h⟩ := each_broadcast_of h
  rw [Bool.and_eq_true, Bool.and_eq_true] at h
  obtain ⟨rfl, hc⟩ := Core.of_checks hg hs h.1.1
  obtain ⟨ks, ht, hks⟩ := allItems_of h.1.2
  obtain ⟨a', chk, err, ho, haa⟩ := broadcast_of h.2
  rw [Bool.and_eq_true, Bool.not_eq_true'] at haa
  obtain rfl := eq_of_beq haa.1
  obtain rfl := haa.2
  exact ⟨s, ks, err, hc, ht, hks, ho⟩

theorem ite_true_or {c : Prop} [Decidable c] {a b : Bool} (h : (if c then a else b) = true) : a = true ∨ b = true := by
  by_cases hc : c
  · exact .inl (by rwa [if_pos hc] at h)
  · exact .inr (by rwa [if_neg hc] at h)

theorem admissible_shape (tbl : List Descriptor) (d : Descriptor) (hadm : d.admissible tbl = true) :
    d.wfSeqOnly = true ∨ d.wfLenOnly = true ∨ d.wfAllSeq = true ∨ d.wfMembers tbl = true ∨ d.wfBroadcast = true :=
  (ite_true_or hadm).imp_right fun h => (ite_true_or h).imp_right fun h => (ite_true_or h).imp_right ite_true_or

theorem wfBroadcast_of_admissible {tbl : List Descriptor} {d : Descriptor} (h : d.admissible tbl = true)
    (hn : d.name ∉ ["names", "pipelines", "targets", "observers", "sight_lines", "foil_detectors"]) :
    d.wfBroadcast = true := by
  simp only [List.mem_cons, List.not_mem_nil, or_false, not_or] at hn
  obtain ⟨h1, h2, h3, h4, h5, h6⟩ := hn
  simpa [Descriptor.admissible, h1, h2, h3, h4, h5, h6] using h

/-- every member's scene-graph parent is the group, and every member is of an accepted type -/
def Inv (ci : ClassInfo) (w : World) : Prop :=
  ∀ u ∈ w.members, (w.heap u).parent = some w.gid ∧ typeOk w.heap ci.accepted u = true

theorem typeOk_congr {h h' : Heap} (acc : List String) (u : Nat) (e : (h' u).types = (h u).types) :
    typeOk h' acc u = typeOk h acc u := by
  simp [typeOk, e]

theorem Inv.of_frame {ci : ClassInfo} {w w' : World} {a : Attr} {us : List Nat} (hi : Inv ci w) (hm : w'.members = w.members)
    (hg : w'.gid = w.gid) (f : Frame a us w.heap w'.heap) : Inv ci w' := by
  intro u hu
  rw [hm] at hu
  obtain ⟨p, t⟩ := hi u hu
  exact ⟨by rw [(f.2 u).1, hg]; exact p, by rw [typeOk_congr _ _ (f.2 u).2]; exact t⟩

theorem typeOk_addObserver (ci : ClassInfo) (w : World) (u x : Nat) (acc : List String) :
    typeOk (addObserver ci w u).1.heap acc x = typeOk w.heap acc x := by
  unfold addObserver
  split
  · exact typeOk_congr _ _ setParent_types
  · rfl

theorem addObserver_inv (ci : ClassInfo) (w : World) (u : Nat) (hi : Inv ci w) :
    Inv ci (addObserver ci w u).1 ∧ (addObserver ci w u).1.gid = w.gid := by
  unfold addObserver
  split
  · rename_i ht
    refine ⟨fun x hx => ?_, rfl⟩
    rw [typeOk_congr _ x setParent_types]
    by_cases hxu : x = u
    · subst hxu; exact ⟨setParent_parent_same, ht⟩
    · obtain ⟨p, t⟩ := hi x ((List.mem_append.mp hx).resolve_right fun h => hxu (List.mem_singleton.mp h))
      exact ⟨(setParent_parent_other hxu).trans p, t⟩
  · exact ⟨hi, rfl⟩

theorem reparentAll_spec (g : Nat) (us : List Nat) (h : Heap) :
    (∀ u ∈ us, ((reparentAll g us h) u).parent = some g) ∧
    (∀ u, u ∉ us → ((reparentAll g us h) u).parent = (h u).parent) ∧
    (∀ u, ((reparentAll g us h) u).types = (h u).types ∧ ((reparentAll g us h) u).attrs = (h u).attrs) := by
  induction us generalizing h with
  | nil => exact ⟨nofun, fun _ _ => rfl, fun _ => ⟨rfl, rfl⟩⟩
  | cons x us ih =>
    obtain ⟨h1, h2, h3⟩ := ih (h.setParent x (some g))
    refine ⟨fun u hu => ?_, fun u hu => ?_, fun u => ?_⟩
    · by_cases hux : u ∈ us
      · exact h1 u hux
      · obtain rfl : u = x := (List.mem_cons.mp hu).resolve_right hux
        exact (h2 u hux).trans setParent_parent_same
    · rw [List.mem_cons, not_or] at hu
      exact (h2 u hu.2).trans (setParent_parent_other hu.1)
    · exact ⟨(h3 u).1.trans setParent_types, (h3 u).2.trans setParent_attrs⟩

theorem reparentChecked_eq (g : Nat) (acc : List String) (e : Err) (us : List Nat) (h : Heap) :
    reparentChecked g acc e us h =
      (reparentAll g (us.takeWhile (typeOk h acc)) h, if us.all (typeOk h acc) then none else some e) := by
  induction us generalizing h with
  | nil => rfl
  | cons x us ih =>
    cases hx : typeOk h acc x with
    | true =>
      have tc : typeOk (h.setParent x (some g)) acc = typeOk h acc := funext fun u => typeOk_congr _ _ (by simp)
      simp only [reparentChecked, List.takeWhile_cons, List.all_cons, hx, if_true, Bool.true_and, reparentAll, ih, tc]
    | false => simp only [reparentChecked, List.takeWhile_cons, List.all_cons, hx, Bool.false_and, Bool.false_eq_true, if_false, reparentAll]

theorem MemberSetter.run_cases {P : World × Option Err → Prop} (m : MemberSetter) (ci : ClassInfo) (w : World)
    (k : Option SeqKind) (us : List Nat) (raise : ∀ e, P (w, some e))
    (adopt : us.all (typeOk w.heap ci.accepted) = true →
      P ({ w with heap := reparentAll w.gid us w.heap, members := us }, none))
    (stop : m.atomic = false →
      P ({ w with heap := reparentAll w.gid (us.takeWhile (typeOk w.heap ci.accepted)) w.heap }, some m.elemErr)) :
    P (m.run ci w k us) := by
  unfold MemberSetter.run
  by_cases hk : (!kindIn k m.kinds) = true
  · rw [if_pos hk]; exact raise _
  rw [if_neg hk]
  by_cases hall : us.all (typeOk w.heap ci.accepted) = true
  · by_cases ha : m.atomic = true
    · rw [if_pos ha, if_pos hall]; exact adopt hall
    · rw [if_neg ha, reparentChecked_eq, if_pos hall, List.takeWhile_eq_self_iff.mpr (List.all_eq_true.mp hall)]
      exact adopt hall
  · by_cases ha : m.atomic = true
    · rw [if_pos ha, if_neg hall]; exact raise _
    · rw [if_neg ha, reparentChecked_eq, if_neg hall]
      exact stop (Bool.eq_false_iff.mpr ha)

theorem MemberSetter.run_inv (m : MemberSetter) (ci : ClassInfo) (w : World) (k : Option SeqKind) (us : List Nat)
    (hi : Inv ci w) : Inv ci (m.run ci w k us).1 ∧ (m.run ci w k us).1.gid = w.gid := by
  refine m.run_cases (P := fun r => Inv ci r.1 ∧ r.1.gid = w.gid) ci w k us (fun _ => ⟨hi, rfl⟩)
    (fun hall => ⟨fun u hu => ?_, rfl⟩) (fun _ => ⟨fun u hu => ?_, rfl⟩)
  · obtain ⟨h1, _, h3⟩ := reparentAll_spec w.gid us w.heap
    exact ⟨h1 u hu, (typeOk_congr _ _ (h3 u).1).trans (List.all_eq_true.mp hall u hu)⟩
  · -- the members are the old ones, some of them re-parented to the group they belong to anyway
    obtain ⟨p, t⟩ := hi u hu
    obtain ⟨h1, h2, h3⟩ := reparentAll_spec w.gid (us.takeWhile (typeOk w.heap ci.accepted)) w.heap
    refine ⟨?_, (typeOk_congr _ _ (h3 u).1).trans t⟩
    by_cases hm : u ∈ us.takeWhile (typeOk w.heap ci.accepted)
    · exact h1 u hm
    · exact (h2 u hm).trans p

theorem findDesc_mem {tbl : List Descriptor} {cls name : String} {d : Descriptor} (h : findDesc tbl cls name = some d) :
    d ∈ tbl ∧ d.cls = cls ∧ d.name = name := by
  unfold findDesc at h
  have hm := List.mem_of_find?_eq_some h
  have hp := List.find?_some h
  simp only [Bool.and_eq_true, beq_iff_eq] at hp
  exact ⟨hm, hp.1, hp.2⟩

theorem filter_unique {α : Type} (l : List α) (p : α → Bool) (u : α) (hnd : l.Nodup) (hu : u ∈ l) (hp : p u = true)
    (hother : ∀ x ∈ l, x ≠ u → p x = false) : l.filter p = [u] := by
  obtain ⟨l₁, l₂, rfl⟩ := List.append_of_mem hu
  rw [List.nodup_append, List.nodup_cons] at hnd
  have e₁ : l₁.filter p = [] := List.filter_eq_nil_iff.mpr fun x hx =>
    Bool.not_eq_true _ ▸ hother x (List.mem_append_left _ hx) (hnd.2.2 x hx u List.mem_cons_self)
  have e₂ : l₂.filter p = [] := List.filter_eq_nil_iff.mpr fun x hx =>
    Bool.not_eq_true _ ▸ hother x (List.mem_append_right _ (List.mem_cons_of_mem _ hx)) fun e => hnd.2.1.1 (e ▸ hx)
  rw [List.filter_append, List.filter_cons_of_pos hp, e₁, e₂]
  rfl

theorem findDesc_self {tbl : List Descriptor} {d : Descriptor} (hd : d ∈ tbl)
    (hnd : ((tbl.filter fun e => e.cls == d.cls).map (·.name)).Nodup) : findDesc tbl d.cls d.name = some d := by
  have hd' : d ∈ tbl.filter fun e => e.cls == d.cls := List.mem_filter.mpr ⟨hd, beq_self_eq_true _⟩
  -- looking for the pair is looking for the name within the class, where `d` is the only descriptor of its name
  have e : findDesc tbl d.cls d.name =
      ((tbl.filter fun e => e.cls == d.cls).filter fun e => e.name == d.name).head? := by
    rw [List.head?_filter, List.find?_filter]
    simp only [findDesc, Bool.decide_and, Bool.decide_eq_true]
  rw [e, filter_unique _ (fun e => e.name == d.name) d (hnd.of_map _) hd' (beq_self_eq_true _)
    fun x hx hne => beq_eq_false_iff_ne.mpr fun e => hne (List.inj_on_of_nodup_map hnd hx hd' e)]
  rfl

theorem setAttr_cases {P : World × Option Err → Prop} (d : Descriptor) (w : World) (v : Val)
    (raise : ∀ e, P (w, some e)) (body : ∀ s, d.setter = some (.broadcast s) → P (s.run w v)) : P (setAttr d w v) := by
  unfold setAttr
  split
  · exact raise _
  · exact body _ ‹_›
  · exact raise _

theorem setMembers_cases {P : World × Option Err → Prop} (tbl : List Descriptor) (ci : ClassInfo) (d : Descriptor)
    (hd : d ∈ tbl) (w : World) (k : Option SeqKind) (us : List Nat) (noop : ∀ e, P (w, e))
    (body : ∀ d' ∈ tbl, ∀ m, d'.setter = some (.members m) → P (m.run ci w k us)) :
    P (setMembers tbl ci d w k us) := by
  unfold setMembers
  split
  · exact noop _
  · exact body d hd _ ‹_›
  · split
    · rename_i hf
      split
      · exact body _ (findDesc_mem hf).1 _ ‹_›
      · exact noop _
      · exact noop _
    · exact noop _
  · exact noop _

theorem step_cases {P : Op → World × Option Err → Prop} (tbl : List Descriptor) (ci : ClassInfo) (w : World)
    (add : ∀ u, P (.add u) (addObserver ci w u))
    (assign : ∀ name v d s, findDesc tbl ci.name name = some d → d.setter = some (.broadcast s) →
      P (.assign name v) (s.run w v))
    (members : ∀ name k us, ∀ d ∈ tbl, ∀ m, d.setter = some (.members m) → P (.setMembers name k us) (m.run ci w k us))
    (poke : ∀ u a x, P (.poke u a x) ({ w with heap := w.heap.setAttr u a x }, none))
    (noop : ∀ op e, P op (w, e)) (op : Op) : P op (step tbl ci w op) := by
  cases op with
  | add u => exact add u
  | assign name v =>
    simp only [step]
    split
    · exact setAttr_cases _ w v (fun _ => noop _ _) (fun s hs => assign name v _ s ‹_› hs)
    · exact noop _ _
  | setMembers name k us =>
    simp only [step]
    split
    · rename_i hf
      exact setMembers_cases tbl ci _ (findDesc_mem hf).1 w k us (noop _) (members name k us)
    · exact noop _ _
  | poke u a x => exact poke u a x

theorem pyIndex_nonneg (xs : List Nat) (i : Nat) (hi : i < xs.length) : pyIndex xs (i : Int) = some xs[i] := by
  simp only [pyIndex]
  rw [if_pos ⟨Int.natCast_nonneg i, Int.ofNat_lt.mpr hi⟩, Int.toNat_natCast, List.getElem?_eq_getElem hi]

theorem pyIndex_negative (xs : List Nat) (k : Nat) (hk1 : 1 ≤ k) (hk2 : k ≤ xs.length) :
    pyIndex xs (-(k : Int)) = some (xs[xs.length - k]'(Nat.sub_lt (hk1.trans hk2) hk1)) := by
  have hneg : -(k : Int) < 0 := Int.neg_neg_of_pos (Int.natCast_pos.mpr hk1)
  simp only [pyIndex]
  rw [if_neg fun h => Int.not_le.mpr hneg h.1, if_pos ⟨Int.neg_le_neg (Int.ofNat_le.mpr hk2), hneg⟩,
    Int.add_comm, ← Int.sub_eq_add_neg, ← Int.ofNat_sub hk2, Int.toNat_natCast, List.getElem?_eq_getElem]

theorem pyIndex_out_of_range (xs : List Nat) (i : Int) (h : (xs.length : Int) ≤ i ∨ i < -(xs.length : Int)) :
    pyIndex xs i = none := by
  simp only [pyIndex]
  rw [if_neg (by omega), if_neg (by omega)]

theorem adjustBound_of_le (n s dflt : Int) (h0 : 0 ≤ s) (hn : s ≤ n) : adjustBound n 1 (some s) dflt = s := by
  simp only [adjustBound]
  rw [if_neg (Int.not_lt.mpr h0)]
  split
  · rw [if_neg (by decide)]; exact Int.le_antisymm ‹_› hn
  · rfl

theorem sliceIdx_up (xs : List Nat) (fuel a b : Nat) (hf : b - a ≤ fuel) (hb : b ≤ xs.length) :
    (sliceIdx 1 (b : Int) fuel (a : Int)).filterMap (fun i => xs[i.toNat]?) = (xs.drop a).take (b - a) := by
  induction fuel generalizing a with
  | zero => rw [Nat.le_zero.mp hf]; rfl
  | succ fuel ih =>
    unfold sliceIdx
    by_cases hab : a < b
    · have hs : b - a = (b - (a + 1)) + 1 := by
        rw [← Nat.sub_sub]; exact (Nat.sub_add_cancel (Nat.sub_pos_of_lt hab)).symm
      have ha : a < xs.length := hab.trans_le hb
      rw [if_pos (Or.inl ⟨Int.one_pos, Int.ofNat_lt.mpr hab⟩), List.filterMap_cons, Int.toNat_natCast,
        List.getElem?_eq_getElem ha]
      simp only
      rw [← Int.natCast_succ, ih (a + 1) (Nat.le_of_succ_le_succ (hs.symm.trans_le hf)), hs,
        List.drop_eq_getElem_cons ha, List.take_succ_cons]
    · rw [if_neg (by omega), Nat.sub_eq_zero_of_le (Nat.le_of_not_lt hab)]
      rfl

theorem pySlice_simple (xs : List Nat) (a b : Nat) (hab : a ≤ b) (hb : b ≤ xs.length) :
    pySlice xs (some (a : Int)) (some (b : Int)) none = some ((xs.drop a).take (b - a)) := by
  have ha' := adjustBound_of_le xs.length a 0 (Int.natCast_nonneg a) (Int.ofNat_le.mpr (hab.trans hb))
  have hb' := adjustBound_of_le xs.length b xs.length (Int.natCast_nonneg b) (Int.ofNat_le.mpr hb)
  simp only [pySlice, Option.getD_none, show ¬ ((1 : Int) = 0) by decide, if_false, show ¬ ((1 : Int) < 0) by decide, ha', hb']
  rw [sliceIdx_up xs xs.length a b ((Nat.sub_le b a).trans hb) hb]

theorem pySlice_members (xs : List Nat) (a b c : Option Int) (us : List Nat) (h : pySlice xs a b c = some us) :
    ∀ u ∈ us, u ∈ xs := by
  unfold pySlice at h
  simp only at h
  split at h
  · cases h
  · obtain rfl := Option.some.inj h
    intro u hu
    obtain ⟨i, _, hi⟩ := List.mem_filterMap.mp hu
    exact List.mem_of_getElem? hi

theorem getItem_int_eq (ci : ClassInfo) (w : World) (i : Int) :
    getItem ci w (.int i) = (pyIndex w.members i).elim (.err .indexError) fun u => .objs [u] := by
  unfold getItem; cases ci.family <;> dsimp only <;> cases pyIndex w.members i <;> rfl

theorem getItem_slice_eq (ci : ClassInfo) (w : World) (a b c : Option Int) :
    getItem ci w (.slice a b c) =
      if ci.sliceKeys then (pySlice w.members a b c).elim (.err .valueError) .objs else .err .typeError := by
  unfold getItem; cases ci.family <;> dsimp only <;> cases ci.sliceKeys <;> cases pySlice w.members a b c <;> rfl

/-- `h`: with several members of that name the families differ — `Observer0DGroup.__getitem__` raises `ValueError`
(base.py:76), `BolometerCamera.__getitem__` returns the first (bolometry.py:120-122) -/
theorem getItem_str_eq (ci : ClassInfo) (w : World) (x : Nat) {l : List Nat}
    (hf : (w.members.filter fun u => nameOf w.heap u == x) = l) (h : l.length ≤ 1) :
    getItem ci w (.str x) = l.head?.elim (.err .valueError) fun u => .objs [u] := by
  unfold getItem
  cases ci.family with
  | observer0D =>
    dsimp only
    rw [hf]
    match l, h with
    | [], _ => rfl
    | [u], _ => rfl
  | bolometer =>
    dsimp only
    rw [← hf, ← List.head?_filter]
    cases (w.members.filter fun u => nameOf w.heap u == x).head? <;> rfl

end Cherab.Groups
