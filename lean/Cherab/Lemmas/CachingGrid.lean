import Cherab.Lemmas.CachingMemo
import Mathlib.Tactic.NormNum.OfScientific
import Mathlib.Tactic.FieldSimp
import Mathlib.Data.Nat.Cast.Order.Field

/-!
Helper lemmas for C14: the node grid is strictly increasing and covers the caching area; `cellOf`
(find_index + the `1 ≤ i ≤ top − 2` test) returns exactly the bracketing cell.
-/
namespace Cherab.Caching
set_option linter.unusedSectionVars false

section Grid
variable {α : Type} [Field α] [LinearOrder α] [IsStrictOrderedRing α]

theorem EPS_pos : (0 : α) < EPS := by unfold EPS; norm_num

theorem nNodes_ge (trunc : α → Nat) (mn mx dx : α) : 2 ≤ nNodes trunc mn mx dx := by
  unfold nNodes; exact le_max_right _ _

theorem nodeAt_zero (mn mx dx : α) (n : Nat) : nodeAt mn mx dx n 0 = mn - dx := by simp [nodeAt]

theorem nodeAt_top (mn mx dx : α) (n : Nat) : nodeAt mn mx dx n (n + 1) = mx + dx := by simp [nodeAt]

theorem nodeAt_one (mn mx dx : α) (n : Nat) (hn : 2 ≤ n) : nodeAt mn mx dx n 1 = mn - EPS := by
  have h1 : ¬ (n = 0) := by omega
  have h2 : ¬ (0 = n - 1) := by omega
  simp [nodeAt, linspace, h1, h2]

theorem nodeAt_last (mn mx dx : α) (n : Nat) (hn : 2 ≤ n) : nodeAt mn mx dx n n = mx + EPS := by
  have h0 : ¬ (n = 0) := by omega
  simp [nodeAt, linspace, h0]

/-- in a field the forced last value of `numpy.linspace` is the value the formula gives -/
theorem linspace_eq (a b : α) (n j : Nat) (hn : 2 ≤ n) :
    linspace a b n j = (j : α) * ((b - a) / ((n - 1 : Nat) : α)) + a := by
  unfold linspace
  split_ifs with h
  · have : ((n - 1 : Nat) : α) ≠ 0 := Nat.cast_ne_zero.mpr (by omega)
    rw [h]; field_simp; ring
  · rfl

theorem nodeAt_inner (mn mx dx : α) (n k : Nat) (hn : 2 ≤ n) (h0 : 0 < k) (hk : k ≤ n) :
    nodeAt mn mx dx n k = ((k - 1 : Nat) : α) * ((mx + EPS - (mn - EPS)) / ((n - 1 : Nat) : α)) + (mn - EPS) := by
  rw [nodeAt, if_neg (by omega), if_neg (by omega), linspace_eq _ _ _ _ hn]

theorem nodeAt_succ_lt (mn mx dx : α) (n : Nat) (hn : 2 ≤ n) (h : mn < mx) (hd : EPS < dx) (i : Nat)
    (hi : i ≤ n) : nodeAt mn mx dx n i < nodeAt mn mx dx n (i + 1) := by
  have he : (0 : α) < EPS := EPS_pos
  rcases Nat.eq_zero_or_pos i with rfl | hpos
  · rw [nodeAt_zero, nodeAt_one _ _ _ _ hn]; linarith
  rcases hi.eq_or_lt with rfl | hlt
  · rw [nodeAt_last _ _ _ _ hn, nodeAt_top]; linarith
  · -- both are inner nodes: consecutive multiples of a positive step
    have hstep : 0 < (mx + EPS - (mn - EPS)) / ((n - 1 : Nat) : α) :=
      div_pos (by linarith) (Nat.cast_pos.mpr (by omega))
    rw [nodeAt_inner _ _ _ _ _ hn hpos hlt.le, nodeAt_inner _ _ _ _ (i + 1) hn (by omega) hlt, Nat.add_sub_cancel]
    have : ((i - 1 : Nat) : α) < (i : α) := Nat.cast_lt.mpr (by omega)
    exact add_lt_add_left (mul_lt_mul_of_pos_right this hstep) _

/-- the node array is strictly increasing (so `find_index`'s contract is met) -/
theorem nodeAt_strictMono (mn mx dx : α) (n : Nat) (hn : 2 ≤ n) (h : mn < mx) (hd : EPS < dx) :
    ∀ i j, i < j → j ≤ n + 1 → nodeAt mn mx dx n i < nodeAt mn mx dx n j := by
  intro i j hij
  induction j with
  | zero => omega
  | succ k ih =>
    intro hk
    rcases Nat.lt_or_ge i k with hlt | hge
    · exact lt_trans (ih hlt (by omega)) (nodeAt_succ_lt mn mx dx n hn h hd k (by omega))
    · have : i = k := by omega
      subst this
      exact nodeAt_succ_lt mn mx dx n hn h hd i (by omega)

end Grid

section Cell
variable {α : Type} [Field α] [LinearOrder α] [IsStrictOrderedRing α]

def Axis.Sorted (ax : Axis α) : Prop := ∀ i j, i < j → j ≤ ax.top → ax.dom i < ax.dom j

theorem Axis.Sorted.mono {ax : Axis α} (hs : ax.Sorted) {i j : Nat} (hij : i ≤ j) (hj : j ≤ ax.top) :
    ax.dom i ≤ ax.dom j := by
  rcases hij.eq_or_lt with rfl | h
  · exact le_rfl
  · exact (hs i j h hj).le

/-- whatever the node values, a located cell brackets the point and passes the range test -/
theorem cellOf_some (ax : Axis α) (p : α) (i : Nat) (h : cellOf ax p = some i) :
    1 ≤ i ∧ i + 2 ≤ ax.top ∧ ax.dom i ≤ p ∧ p < ax.dom (i + 1) := by
  unfold cellOf at h
  simp only [] at h
  split at h
  · rename_i hr
    cases h
    rcases findIndex_cases ax.dom ax.top p with c | c | c | c | c
    · rw [c.2] at hr; omega
    · rw [c.2.2] at hr; omega
    · rw [c.2] at hr; omega
    · rw [c.2.2] at hr; omega
    · obtain ⟨k, hk, k2, k3, k4⟩ := findIndex_bracket ax.dom ax.top p c.1 c.2.1
      rw [hk] at hr ⊢
      simp only [Int.toNat_natCast]
      exact ⟨by omega, by omega, k3, k4⟩
  · cases h

/-- a located cell is written `i' + 1` wherever its stencil is indexed: the stencil `[i − 1, …, i + 2]` (`stencil1`, with
truncated subtraction) is then `[i', …, i' + 3]` -/
theorem cellOf_succ (ax : Axis α) (p : α) (i : Nat) (h : cellOf ax p = some i) : ∃ i', i = i' + 1 ∧ i' + 3 ≤ ax.top := by
  obtain ⟨h1, h2, _, _⟩ := cellOf_some ax p i h
  exact ⟨i - 1, by omega, by omega⟩

theorem cellOf_of_bracket (ax : Axis α) (hs : ax.Sorted) (p : α) (i : Nat) (h1 : 1 ≤ i) (h2 : i + 2 ≤ ax.top)
    (hl : ax.dom i ≤ p) (hu : p < ax.dom (i + 1)) : cellOf ax p = some i := by
  have h0 : ax.dom 0 < p := lt_of_lt_of_le (hs 0 i (by omega) (by omega)) hl
  have ht : p < ax.dom ax.top := lt_trans hu (hs (i + 1) ax.top (by omega) le_rfl)
  obtain ⟨k, hk, k2, k3, k4⟩ := findIndex_bracket ax.dom ax.top p h0 ht
  -- two cells that bracket the same point coincide
  have hki : k = i := by
    by_contra hne
    rcases Nat.lt_or_gt_of_ne hne with c | c
    · exact lt_irrefl p (k4.trans_le ((hs.mono (by omega : k + 1 ≤ i) (by omega)).trans hl))
    · exact lt_irrefl p (hu.trans_le ((hs.mono (by omega : i + 1 ≤ k) (by omega)).trans k3))
  subst hki
  unfold cellOf
  simp only [hk, Int.toNat_natCast]
  have : (1 : Int) ≤ (k : Int) ∧ (k : Int) ≤ (ax.top : Int) - 2 := by omega
  simp [this]

/-- on a sorted axis every point of `[dom 1, dom (top−1))` lies in some cell … -/
theorem cellOf_inside (ax : Axis α) (hs : ax.Sorted) (htop : 3 ≤ ax.top) (p : α) (hl : ax.dom 1 ≤ p)
    (hu : p < ax.dom (ax.top - 1)) : ∃ i, cellOf ax p = some i := by
  have h0 : ax.dom 0 < p := lt_of_lt_of_le (hs 0 1 (by omega) (by omega)) hl
  have ht : p < ax.dom ax.top := lt_trans hu (hs _ _ (by omega) le_rfl)
  obtain ⟨k, hk, k2, k3, k4⟩ := findIndex_bracket ax.dom ax.top p h0 ht
  have hk1 : 1 ≤ k := Nat.pos_of_ne_zero fun hz => by subst hz; exact lt_irrefl p (k4.trans_le hl)
  have hk2 : k + 2 ≤ ax.top := by
    by_contra hc
    exact lt_irrefl p (hu.trans_le ((hs.mono (by omega : ax.top - 1 ≤ k) (by omega)).trans k3))
  exact ⟨k, cellOf_of_bracket ax hs p k hk1 hk2 k3 k4⟩

/-- … and no point outside it does -/
theorem cellOf_outside (ax : Axis α) (hs : ax.Sorted) (p : α)
    (h : p < ax.dom 1 ∨ ax.dom (ax.top - 1) ≤ p) : cellOf ax p = none := by
  cases hc : cellOf ax p with
  | none => rfl
  | some i =>
    obtain ⟨a1, a2, a3, a4⟩ := cellOf_some ax p i hc
    rcases h with h | h
    · exact absurd (h.trans_le ((hs.mono a1 (by omega)).trans a3)) (lt_irrefl _)
    · exact absurd (a4.trans_le ((hs.mono (by omega : i + 1 ≤ ax.top - 1) (by omega)).trans h)) (lt_irrefl _)

theorem mkAxis_sorted (trunc : α → Nat) (mn mx dx : α) (h : mn < mx) (hd : EPS < dx) :
    (mkAxis trunc mn mx dx).Sorted := by
  intro i j hij hj
  exact nodeAt_strictMono mn mx dx _ (nNodes_ge trunc mn mx dx) h hd i j hij hj

theorem mkAxis_top (trunc : α → Nat) (mn mx dx : α) : 3 ≤ (mkAxis trunc mn mx dx).top := by
  have := nNodes_ge trunc mn mx dx
  simp only [mkAxis]; omega

theorem mkAxis_covers (trunc : α → Nat) (mn mx dx : α) (p : α) (h1 : mn ≤ p) (h2 : p ≤ mx) :
    (mkAxis trunc mn mx dx).dom 1 ≤ p ∧ p < (mkAxis trunc mn mx dx).dom ((mkAxis trunc mn mx dx).top - 1) := by
  have hn := nNodes_ge trunc mn mx dx
  have he : (0 : α) < EPS := EPS_pos
  simp only [mkAxis, Nat.add_sub_cancel]
  rw [nodeAt_one _ _ _ _ hn, nodeAt_last _ _ _ _ hn]
  constructor <;> linarith

theorem mkAxis_xn (trunc : α → Nat) (mn mx dx : α) (i : Nat) :
    (mkAxis trunc mn mx dx).xn i =
      ((mkAxis trunc mn mx dx).dom i - (mkAxis trunc mn mx dx).xmin) * (mkAxis trunc mn mx dx).dinv := rfl

theorem mkAxis_dinv_ne (trunc : α → Nat) (mn mx dx : α) (h : mn < mx) (hd : EPS < dx) :
    (mkAxis trunc mn mx dx).dinv ≠ 0 := by
  have hs := mkAxis_sorted trunc mn mx dx h hd
  have := hs 0 (mkAxis trunc mn mx dx).top (by have := mkAxis_top trunc mn mx dx; omega) le_rfl
  have hne : (mkAxis trunc mn mx dx).dom (mkAxis trunc mn mx dx).top - (mkAxis trunc mn mx dx).dom 0 ≠ 0 := by
    intro h0; linarith
  simp only [mkAxis] at hne ⊢
  exact one_div_ne_zero hne

end Cell
end Cherab.Caching
