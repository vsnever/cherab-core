import Cherab.Model.Caching
import Mathlib.Tactic.Ring
import Mathlib.Tactic.LinearCombination
import Mathlib.Algebra.Order.Field.Basic

/-!
Helper lemmas for C14: coordinate denormalisation.  The stored polynomial at `p` is
`δ · (normalised polynomial at (p − x₀)·Δ⁻¹) + data_min` (`denorm1`, `denorm2`, `denorm3`).  Independent of the constraint
systems.

Along one axis the denormalisation loop is the Taylor shift of a cubic (`taylor4`).  Each dimension follows from the one
below: the coefficients are cut into rows (slabs) along the first axis, a finished row is the first-axis shift of the
finished lower-dimensional rows (`finish2_row`, `finish3_slab`), and evaluation along the other axes commutes with that
shift (`poly1_rows`, `poly2_slabs`).
-/
namespace Cherab.Caching
set_option linter.unusedSectionVars false

variable {α : Type} [Field α] [LinearOrder α] [IsStrictOrderedRing α]

theorem taylor4 (P : Nat → α) (t Δ p : α) :
    poly1 (fun i => Δ ^ i / ((fact i : Nat) : α) * polyDeriv1 P t i) p = poly1 P (t + Δ * p) := by
  simp [poly1, polyDeriv1, derivArr, fact]; ring

theorem denorm1 (E : Ext α) (hp : ∀ x n, E.powi x n = x ^ n) (ax : Axis α) (nm : Norm α) (c : Nat → α) (p : α) :
    poly1 (finish1 E ax nm c) p = nm.delta * poly1 c ((p - ax.xmin) * ax.dinv) + nm.dmin := by
  have h := taylor4 c (-ax.dinv * ax.xmin) ax.dinv p
  simp only [poly1, finish1, hp, ↓reduceIte, OfNat.ofNat_ne_zero, one_ne_zero] at h ⊢
  linear_combination nm.delta * h

def Norm.noOffset (nm : Norm α) : Norm α := { nm with dmin := 0 }

def coefRow (c : Nat → α) (a : Nat) : Nat → α := fun b => c (4 * a + b)

theorem poly2_split (c : Nat → α) (q : α × α) :
    poly2 c q = poly1 (coefRow c 0) q.2 + q.1 * poly1 (coefRow c 1) q.2 + q.1 * q.1 * poly1 (coefRow c 2) q.2
      + q.1 * q.1 * q.1 * poly1 (coefRow c 3) q.2 := by
  simp only [poly2, poly1, coefRow]; ring

theorem finish2_row (E : Ext α) (ax ay : Axis α) (nm : Norm α) (c : Nat → α) (i j : Nat) (hj : j < 4) :
    finish2 E ax ay nm c (4 * i + j) =
      E.powi ax.dinv i / ((fact i : Nat) : α) *
        polyDeriv1 (fun a => finish1 E ay nm.noOffset (coefRow c a) j) (-ax.dinv * ax.xmin) i
      + if 4 * i + j = 0 then nm.dmin else 0 := by
  have h1 : (4 * i + j) / 4 = i := by omega
  have h2 : (4 * i + j) % 4 = j := by omega
  simp only [finish2, finish1, polyDeriv2, polyDeriv1, coefRow, h1, h2, Norm.noOffset, add_zero, ite_self, Nat.cast_mul]
  split_ifs <;> ring

/-- `m` is the offset `data_min`, which `finish*` puts on coefficient 0 only -/
theorem poly1_rows (g : Nat → α) (s t m y : α) (f : Nat → Nat → α) (i : Nat)
    (h : ∀ j, j < 4 → g j = s * polyDeriv1 (fun a => f a j) t i + if 4 * i + j = 0 then m else 0) :
    poly1 g y = s * polyDeriv1 (fun a => poly1 (f a) y) t i + if i = 0 then m else 0 := by
  simp only [poly1, polyDeriv1, h 0 (by norm_num), h 1 (by norm_num), h 2 (by norm_num), h 3 (by norm_num),
    Nat.add_eq_zero_iff, Nat.mul_eq_zero, OfNat.ofNat_ne_zero, one_ne_zero, false_or, and_true, and_false, if_false]
  ring

theorem denorm2 (E : Ext α) (hp : ∀ x n, E.powi x n = x ^ n) (ax ay : Axis α) (nm : Norm α) (c : Nat → α)
    (p : α × α) :
    poly2 (finish2 E ax ay nm c) p =
      nm.delta * poly2 c ((p.1 - ax.xmin) * ax.dinv, (p.2 - ay.xmin) * ay.dinv) + nm.dmin := by
  have hrow := fun i => poly1_rows (coefRow (finish2 E ax ay nm c) i) _ _ _ p.2 _ i
    fun j hj => finish2_row E ax ay nm c i j hj
  simp only [denorm1 E hp, show nm.noOffset.dmin = 0 from rfl, show nm.noOffset.delta = nm.delta from rfl,
    add_zero] at hrow
  have h := fun P => taylor4 P (-ax.dinv * ax.xmin) ax.dinv p.1
  simp only [poly1] at h
  rw [poly2_split, poly2_split c]
  simp only [hrow, hp, ↓reduceIte, OfNat.ofNat_ne_zero, one_ne_zero]
  linear_combination h fun a => nm.delta * poly1 (coefRow c a) ((p.2 - ay.xmin) * ay.dinv)

def slab (c : Nat → α) (a : Nat) : Nat → α := fun n => c (16 * a + n)

theorem polyDeriv3_split (c : Nat → α) (px py pz : α) (i j k : Nat) :
    polyDeriv3 c px py pz i j k = sum4 (fun a => derivArr px i a * polyDeriv2 (slab c a) py pz j k) := by
  simp only [polyDeriv3, polyDeriv2, lin4, sum4, slab]

theorem poly3_split (c : Nat → α) (q : α × α × α) :
    poly3 c q = poly2 (slab c 0) (q.2.1, q.2.2) + q.1 * poly2 (slab c 1) (q.2.1, q.2.2)
      + q.1 * q.1 * poly2 (slab c 2) (q.2.1, q.2.2) + q.1 * q.1 * q.1 * poly2 (slab c 3) (q.2.1, q.2.2) := by
  simp only [poly3, poly2, cub, slab]

theorem poly2_congr (c c' : Nat → α) (q : α × α) (h : ∀ k, k < 16 → c k = c' k) : poly2 c q = poly2 c' q := by
  simp [poly2, h]

theorem finish3_slab (E : Ext α) (ax ay az : Axis α) (nm : Norm α) (c : Nat → α) (i n : Nat) (hn : n < 16) :
    finish3 E ax ay az nm c (16 * i + n) =
      E.powi ax.dinv i / ((fact i : Nat) : α) *
        polyDeriv1 (fun a => finish2 E ay az nm.noOffset (slab c a) n) (-ax.dinv * ax.xmin) i
      + if 16 * i + n = 0 then nm.dmin else 0 := by
  have h1 : (16 * i + n) / 16 = i := by omega
  have h2 : (16 * i + n) / 4 % 4 = n / 4 := by omega
  have h3 : (16 * i + n) % 4 = n % 4 := by omega
  simp only [finish3, finish2, polyDeriv3_split, polyDeriv1, sum4, h1, h2, h3, Norm.noOffset, add_zero, ite_self,
    Nat.cast_mul]
  split_ifs <;> ring

theorem poly2_slabs (g : Nat → α) (s t m : α) (q : α × α) (f : Nat → Nat → α) (i : Nat)
    (h : ∀ n, n < 16 → g n = s * polyDeriv1 (fun a => f a n) t i + if 16 * i + n = 0 then m else 0) :
    poly2 g q = s * polyDeriv1 (fun a => poly2 (f a) q) t i + if i = 0 then m else 0 := by
  rw [poly2_congr g _ q h]
  simp only [poly2, polyDeriv1, Nat.add_eq_zero_iff, Nat.mul_eq_zero, OfNat.ofNat_ne_zero, one_ne_zero, false_or,
    and_true, and_false, if_false]
  ring

theorem denorm3 (E : Ext α) (hp : ∀ x n, E.powi x n = x ^ n) (ax ay az : Axis α) (nm : Norm α) (c : Nat → α)
    (p : α × α × α) :
    poly3 (finish3 E ax ay az nm c) p =
      nm.delta * poly3 c ((p.1 - ax.xmin) * ax.dinv, (p.2.1 - ay.xmin) * ay.dinv, (p.2.2 - az.xmin) * az.dinv)
        + nm.dmin := by
  have hslab := fun i => poly2_slabs (slab (finish3 E ax ay az nm c) i) _ _ _ (p.2.1, p.2.2) _ i
    fun n hn => finish3_slab E ax ay az nm c i n hn
  simp only [denorm2 E hp, show nm.noOffset.dmin = 0 from rfl, show nm.noOffset.delta = nm.delta from rfl,
    add_zero] at hslab
  have h := fun P => taylor4 P (-ax.dinv * ax.xmin) ax.dinv p.1
  simp only [poly1] at h
  rw [poly3_split, poly3_split c]
  simp only [hslab, hp, ↓reduceIte, OfNat.ofNat_ne_zero, one_ne_zero]
  linear_combination h fun a => nm.delta * poly2 (slab c a) ((p.2.1 - ay.xmin) * ay.dinv, (p.2.2 - az.xmin) * az.dinv)

end Cherab.Caching
