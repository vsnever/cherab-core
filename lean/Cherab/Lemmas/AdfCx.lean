import Cherab.Model.AdfCx

/-! Helper lemmas for the thermal-CX 2D→3D converter (C08). Core Lean only. -/
namespace Cherab.Adf
variable {α β γ : Type}

theorem bcastAxis_exact (n : Nat) (xs : List β) (h : xs.length = n) : bcastAxis n xs = .ok xs := by
  simp [bcastAxis, h]

theorem bcastAxis_reject (n : Nat) (xs : List β) (h : xs.length ≠ n) (h1 : xs.length ≠ 1) :
    bcastAxis n xs = .error .value := by
  unfold bcastAxis
  have : (xs.length == n) = false := by simpa using h
  rw [this]
  match xs, h1 with
  | [], _ => rfl
  | [x], h1 => exact absurd rfl h1
  | _ :: _ :: _, _ => rfl

theorem bcastAxis_one (n : Nat) (x : β) (h : n ≠ 1) : bcastAxis n [x] = .ok (List.replicate n x) := by
  unfold bcastAxis
  have : (([x] : List β).length == n) = false := by simpa using fun e => h e.symm
  rw [this]; rfl

theorem mapM_ok_of_forall {ε : Type} (f : β → Except ε γ) (g : β → γ) :
    ∀ (l : List β), (∀ x ∈ l, f x = .ok (g x)) → l.mapM f = .ok (l.map g) := by
  intro l
  induction l with
  | nil => intro _; rfl
  | cons x l ih =>
    intro h
    obtain ⟨hx, hl⟩ := List.forall_mem_cons.mp h
    rw [List.mapM_cons, hx, ih hl]
    rfl

theorem cx3dRate_of_rows (r : Rate15 α) (h : r.rate.length = r.ne.length) :
    cx3dRate r = (do
      let data ← r.rate.mapM fun row => do
        let c ← bcastAxis r.te.length row
        pure (c.map dupTd)
      pure ({ ne := r.ne, te := r.te, td := tdGrid, rate := data } : Rate15x3 α)) := by
  unfold cx3dRate
  rw [bcastAxis_exact _ _ h]; rfl

theorem dupTd_get (x : α) (k : Nat) (hk : k < 2) : (dupTd x)[k]? = some x := by
  match k, hk with
  | 0, _ => rfl
  | 1, _ => rfl

theorem dupTd_length (x : α) : (dupTd x).length = 2 := rfl

/-- specification side: the converted entry of a table whose shape matches its grids -/
def cx3dSpec (r : Rate15 α) : Rate15x3 α :=
  { ne := r.ne, te := r.te, td := tdGrid, rate := r.rate.map fun row => row.map dupTd }

/-- the table has one row per density and one column per temperature -/
def Rect (r : Rate15 α) : Prop := r.rate.length = r.ne.length ∧ ∀ row ∈ r.rate, row.length = r.te.length

end Cherab.Adf
