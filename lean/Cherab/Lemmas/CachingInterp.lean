import Cherab.Lemmas.CachingAlg
import Cherab.Lemmas.CachingDenorm
import Mathlib.Tactic.FieldSimp

/-!
Helper lemmas for C14: what a solution of the constraint system is worth.
* value rows: `ev*` without derivatives is `poly*`, so the polynomial of a solution takes the data values at the cell's knots;
* existence: the cubic Hermite polynomial solves the 1-D system for any right-hand side (`sur1`), and a tensor power of
  a surjective system is surjective (`sur2`, `sur3`, `exists*`);
* rescaling and shifting the data rescales the solution and shifts its constant coefficient, so value normalisation
  commutes with solving (`isSol*_rescale`);
* a function affine in each coordinate satisfies every row: central differences are exact along an affine axis
  (`affine_axis`), and a block that is affine along x with solutions of the lower-dimensional system as coefficients
  solves the higher-dimensional one (`isSol2_affine`, `isSol3_affine`).
-/
namespace Cherab.Caching
set_option linter.unusedSectionVars false

variable {α : Type} [Field α] [LinearOrder α] [IsStrictOrderedRing α]

theorem ev_false (x : α) (u : Nat → α) : ev x false u = poly1 u x := by
  simp [ev, comps, sum4, poly1]; ring

theorem ev2_false (x y : α) (c : Nat → α) : ev2 x y false false c = poly2 c (x, y) := by
  rw [poly2_split]; simp only [ev2, ev_false, poly1, coefRow]; ring

theorem ev3_false (x y z : α) (c : Nat → α) : ev3 x y z false false false c = poly3 c (x, y, z) := by
  rw [poly3_split]; simp only [ev3, ev2_false, ev_false, poly1]; unfold slab; ring

/-- monomial coefficients of the cubic `y0 + m0·(X − x0) + A·(X − x0)² + B·(X − x0)³` -/
def hermiteC (x0 y0 m0 A B : α) (k : Nat) : α :=
  if k = 0 then y0 - m0 * x0 + A * x0 * x0 - B * x0 * x0 * x0
  else if k = 1 then m0 - 2 * A * x0 + 3 * B * x0 * x0
  else if k = 2 then A - 3 * B * x0
  else if k = 3 then B else 0

theorem sur1 (x : Nat → α) (hne : x 0 ≠ x 1) (t : Nat → Bool → α) :
    ∃ g : Nat → α, ∀ e, e < 2 → ∀ der, ev (x e) der g = t e der := by
  have hh : x 1 - x 0 ≠ 0 := sub_ne_zero.mpr (Ne.symm hne)
  -- the divided difference and the two higher Taylor coefficients at `x 0`, each through the equation that defines it
  obtain ⟨dl, e1⟩ : ∃ dl, dl * (x 1 - x 0) = t 1 false - t 0 false := ⟨_, div_mul_cancel₀ _ hh⟩
  obtain ⟨A, e2⟩ : ∃ A, A * (x 1 - x 0) = 3 * dl - 2 * t 0 true - t 1 true := ⟨_, div_mul_cancel₀ _ hh⟩
  obtain ⟨B, e3⟩ : ∃ B, B * (x 1 - x 0) ^ 2 = t 0 true + t 1 true - 2 * dl := ⟨_, div_mul_cancel₀ _ (pow_ne_zero 2 hh)⟩
  refine ⟨hermiteC (x 0) (t 0 false) (t 0 true) A B, fun e he der => ?_⟩
  interval_cases e <;> cases der <;> simp [ev, comps, sum4, hermiteC]
  · ring
  · ring
  · linear_combination (x 1 - x 0) * e2 + (x 1 - x 0) * e3 + e1
  · linear_combination 2 * e2 + 3 * e3

/-- tensor product of two surjective 1-D systems is surjective: solve along x for every row of the other axis, then
along y for every x-coefficient -/
theorem sur2 (x y : Nat → α) (hx : x 0 ≠ x 1) (hy : y 0 ≠ y 1) (T : Nat → Nat → Bool → Bool → α) :
    ∃ c : Nat → α, ∀ ex ey, ex < 2 → ey < 2 → ∀ xd yd, ev2 (x ex) (y ey) xd yd c = T ex ey xd yd := by
  choose G hG using fun ey yd => sur1 x hx (fun ex xd => T ex ey xd yd)
  choose F hF using fun a => sur1 y hy (fun ey yd => G ey yd a)
  refine ⟨fun n => F (n / 4) (n % 4), fun ex ey hex hey xd yd => ?_⟩
  rw [← hG ey yd ex hex xd]
  refine ev_congr _ _ _ _ fun a ha => ?_
  rw [← hF a ey hey yd]
  exact ev_congr _ _ _ _ fun b hb => by
    dsimp only; rw [show (4 * a + b) / 4 = a by omega, show (4 * a + b) % 4 = b by omega]

theorem sur3 (x y z : Nat → α) (hx : x 0 ≠ x 1) (hy : y 0 ≠ y 1) (hz : z 0 ≠ z 1)
    (T : Nat → Nat → Nat → Bool → Bool → Bool → α) :
    ∃ c : Nat → α, ∀ ex ey ez, ex < 2 → ey < 2 → ez < 2 → ∀ xd yd zd,
      ev3 (x ex) (y ey) (z ez) xd yd zd c = T ex ey ez xd yd zd := by
  choose G hG using fun ey ez yd zd => sur1 x hx (fun ex xd => T ex ey ez xd yd zd)
  choose F hF using fun a => sur2 y z hy hz (fun ey ez yd zd => G ey ez yd zd a)
  refine ⟨fun n => F (n / 16) (n % 16), fun ex ey ez hex hey hez xd yd zd => ?_⟩
  rw [← hG ey ez yd zd ex hex xd]
  refine ev_congr _ _ _ _ fun a ha => ?_
  rw [← hF a ey ez hey hez yd zd]
  exact ev2_congr _ _ _ _ _ _ fun n hn => by
    dsimp only; rw [show (16 * a + n) / 16 = a by omega, show (16 * a + n) % 16 = n by omega]

section Solutions
variable (ax ay az : Axis α) (i : Nat) (cell : Nat × Nat) (cell3 : Nat × Nat × Nat) (d d' : Nat → α)
  (D D' : Nat → Nat → α) (D3 D3' : Nat → Nat → Nat → α) (c : Nat → α) (s t : α)

theorem exists1 (hne : ax.xn i ≠ ax.xn (i + 1)) : ∃ c, IsSol1 ax i d c := by
  obtain ⟨c, hc⟩ := sur1 (fun e => ax.xn (i + e)) hne (fun e der => rhs ax i e der d)
  exact ⟨c, (isSol1_iff ax i d c).mpr hc⟩

theorem exists2 (hx : ax.xn cell.1 ≠ ax.xn (cell.1 + 1)) (hy : ay.xn cell.2 ≠ ay.xn (cell.2 + 1)) :
    ∃ c, IsSol2 ax ay cell D c := by
  obtain ⟨c, hc⟩ := sur2 (fun e => ax.xn (cell.1 + e)) (fun e => ay.xn (cell.2 + e)) hx hy
    (fun ex ey xd yd => rhs2 ax ay cell ex ey xd yd D)
  exact ⟨c, (isSol2_iff ax ay cell D c).mpr hc⟩

theorem exists3 (hx : ax.xn cell3.1 ≠ ax.xn (cell3.1 + 1)) (hy : ay.xn cell3.2.1 ≠ ay.xn (cell3.2.1 + 1))
    (hz : az.xn cell3.2.2 ≠ az.xn (cell3.2.2 + 1)) : ∃ c, IsSol3 ax ay az cell3 D3 c := by
  obtain ⟨c, hc⟩ := sur3 (fun e => ax.xn (cell3.1 + e)) (fun e => ay.xn (cell3.2.1 + e))
    (fun e => az.xn (cell3.2.2 + e)) hx hy hz (fun ex ey ez xd yd zd => rhs3 ax ay az cell3 ex ey ez xd yd zd D3)
  exact ⟨c, (isSol3_iff ax ay az cell3 D3 c).mpr hc⟩

theorem isSol1_rescale (h : IsSol1 ax i d c) :
    IsSol1 ax i (fun a => s * d a + t) (fun n => s * c n + t * e0 n) := by
  rw [isSol1_iff] at h ⊢
  intro e he der
  rw [ev_lin, ev_e0, rhs_rescale, h e he, mul_ite, mul_zero, mul_one]

theorem isSol2_rescale (h : IsSol2 ax ay cell D c) :
    IsSol2 ax ay cell (fun a b => s * D a b + t) (fun n => s * c n + t * e0 n) := by
  rw [isSol2_iff] at h ⊢
  intro ex ey hx hy xd yd
  rw [ev2_lin, ev2_e0, rhs2_rescale, h ex ey hx hy, mul_ite, mul_zero, mul_one]

theorem isSol3_rescale (h : IsSol3 ax ay az cell3 D3 c) :
    IsSol3 ax ay az cell3 (fun a b k => s * D3 a b k + t) (fun n => s * c n + t * e0 n) := by
  rw [isSol3_iff] at h ⊢
  intro ex ey ez hx hy hz xd yd zd
  rw [ev3_lin, ev3_e0, rhs3_rescale, h ex ey ez hx hy hz, mul_ite, mul_zero, mul_one]

theorem isSol1_congr (h : ∀ k, k < 4 → d k = d' k) (hs : IsSol1 ax i d c) : IsSol1 ax i d' c := by
  rw [isSol1_iff] at hs ⊢
  intro e he der
  rw [hs e he, rhs_congr _ _ _ _ _ _ he h]

theorem isSol2_congr (h : ∀ a b, a < 4 → b < 4 → D a b = D' a b) (hs : IsSol2 ax ay cell D c) :
    IsSol2 ax ay cell D' c := by
  rw [isSol2_iff] at hs ⊢
  intro ex ey hx hy xd yd
  rw [hs ex ey hx hy, rhs2_congr _ _ _ _ _ _ _ _ _ hx hy h]

theorem isSol3_congr (h : ∀ a b k, a < 4 → b < 4 → k < 4 → D3 a b k = D3' a b k) (hs : IsSol3 ax ay az cell3 D3 c) :
    IsSol3 ax ay az cell3 D3' c := by
  rw [isSol3_iff] at hs ⊢
  intro ex ey ez hx hy hz xd yd zd
  rw [hs ex ey ez hx hy hz]
  exact rhs_congr _ _ _ _ _ _ hx fun a ha => rhs2_congr _ _ _ _ _ _ _ _ _ hy hz fun b k hb hk => h a b k ha hb hk

end Solutions

def aff (p q : α) (k : Nat) : α := if k = 0 then p else if k = 1 then q else 0

def ml2 (m : Nat → Nat → α) (x y : α) : α := m 0 0 + m 0 1 * y + m 1 0 * x + m 1 1 * x * y

/-- monomial coefficients of `ml2 m` -/
def embed2 (m : Nat → Nat → α) (n : Nat) : α := aff (aff (m 0 0) (m 0 1) (n % 4)) (aff (m 1 0) (m 1 1) (n % 4)) (n / 4)

def ml3 (m : Nat → Nat → Nat → α) (x y z : α) : α :=
  m 0 0 0 + m 0 0 1 * z + m 0 1 0 * y + m 0 1 1 * y * z + m 1 0 0 * x + m 1 0 1 * x * z + m 1 1 0 * x * y
    + m 1 1 1 * x * y * z

/-- monomial coefficients of `ml3 m` -/
def embed3 (m : Nat → Nat → Nat → α) (n : Nat) : α := aff (embed2 (m 0) (n % 16)) (embed2 (m 1) (n % 16)) (n / 16)

/-- coefficients of `ml2 m` in the normalised coordinates `(x − xmin)·dinv` -/
def reparam2 (m : Nat → Nat → α) (ax ay : Axis α) (a b : Nat) : α :=
  if a = 0 then (if b = 0 then ml2 m ax.xmin ay.xmin else (m 0 1 + m 1 1 * ax.xmin) / ay.dinv)
  else (if b = 0 then (m 1 0 + m 1 1 * ay.xmin) / ax.dinv else m 1 1 / (ax.dinv * ay.dinv))

theorem ml2_reparam (m : Nat → Nat → α) (ax ay : Axis α) (hx : ax.dinv ≠ 0) (hy : ay.dinv ≠ 0) (x y : α) :
    ml2 (reparam2 m ax ay) ((x - ax.xmin) * ax.dinv) ((y - ay.xmin) * ay.dinv) = ml2 m x y := by
  simp [ml2, reparam2]
  field_simp
  ring

/-- coefficients of `ml3 m` in the normalised coordinates: along x, `u + v·x = (u + v·xmin) + (v / dinv)·t`; then `reparam2` -/
def reparam3 (m : Nat → Nat → Nat → α) (ax ay az : Axis α) (a : Nat) : Nat → Nat → α :=
  reparam2 (fun b c => if a = 0 then m 0 b c + m 1 b c * ax.xmin else m 1 b c / ax.dinv) ay az

theorem ml3_eq (m : Nat → Nat → Nat → α) (x y z : α) : ml3 m x y z = ml2 (m 0) y z + ml2 (m 1) y z * x := by
  simp only [ml3, ml2]; ring

theorem ml3_reparam (m : Nat → Nat → Nat → α) (ax ay az : Axis α) (hx : ax.dinv ≠ 0) (hy : ay.dinv ≠ 0)
    (hz : az.dinv ≠ 0) (x y z : α) :
    ml3 (reparam3 m ax ay az) ((x - ax.xmin) * ax.dinv) ((y - ay.xmin) * ay.dinv) ((z - az.xmin) * az.dinv)
      = ml3 m x y z := by
  rw [ml3_eq, ml3_eq m]
  simp only [reparam3, ml2_reparam _ ay az hy hz, ↓reduceIte, one_ne_zero]
  simp only [ml2]
  field_simp
  ring

/-- the nodes up to `top` have pairwise distinct normalised coordinates, so the central differences of every stencil
are defined; `AxisOK.xn_ne` (`CachingEval`) supplies it for the constructor's axes -/
def Axis.Distinct (ax : Axis α) : Prop := ∀ i j, i < j → j ≤ ax.top → ax.xn j ≠ ax.xn i

section Affine
variable (x y : α) (xd yd : Bool) (ax ay az : Axis α) (i' j' k' : Nat)

/-- along an axis on which the stencil data are affine in the node coordinate, the value rows and the
central-difference rows are exact: the only place where the node distances enter -/
theorem affine_axis (e : Nat) (he : e < 2) (der : Bool) (p q : α) (hx : ax.Distinct) (hi : i' + 3 ≤ ax.top) :
    ev (ax.xn (i' + 1 + e)) der (aff p q) = rhs ax (i' + 1) e der (fun a => p + q * ax.xn (i' + a)) := by
  have hd0 : ax.xn (i' + 2) - ax.xn i' ≠ 0 := sub_ne_zero.mpr (hx i' (i' + 2) (by omega) (by omega))
  have hd1 : ax.xn (i' + 3) - ax.xn (i' + 1) ≠ 0 := sub_ne_zero.mpr (hx (i' + 1) (i' + 3) (by omega) (by omega))
  interval_cases e <;> cases der <;> simp [ev, comps, sum4, aff, rhs, Nat.add_assoc] <;> field_simp

theorem affine_solves1 (a b : α) (hx : ax.Distinct) (hi : i' + 3 ≤ ax.top) :
    IsSol1 ax (i' + 1) (fun k => a + b * ax.xn (i' + k)) (aff a b) :=
  (isSol1_iff _ _ _ _).mpr fun e he der => affine_axis ax i' e he der a b hx hi

theorem ev_aff (der : Bool) (u v : Nat → α) (a : Nat) :
    ev x der (fun b => aff (u b) (v b) a) = aff (ev x der u) (ev x der v) a := by
  unfold aff; split_ifs <;> simp [ev, sum4]

theorem ev2_aff (u v : Nat → α) (a : Nat) :
    ev2 x y xd yd (fun n => aff (u n) (v n) a) = aff (ev2 x y xd yd u) (ev2 x y xd yd v) a := by
  unfold aff; split_ifs <;> simp [ev2, ev, sum4]

/-- a block affine along x whose two coefficient functions come with solutions `W 0`, `W 1` of the 1-D system along y
solves the 2-D system, with the `W p` as its first two x-rows -/
theorem isSol2_affine (j : Nat) (G : Nat → Nat → α) (W : Nat → Nat → α) (hx : ax.Distinct) (hi : i' + 3 ≤ ax.top)
    (h : ∀ p, p < 2 → IsSol1 ay j (G p) (W p)) :
    IsSol2 ax ay (i' + 1, j) (fun a b => G 0 b + G 1 b * ax.xn (i' + a))
      (fun n => aff (W 0 (n % 4)) (W 1 (n % 4)) (n / 4)) := by
  rw [isSol2_iff]
  intro ex ey hex hey xd yd
  have hW := fun p hp => (isSol1_iff ay j (G p) (W p)).mp (h p hp) ey hey yd
  simp only [rhs2, rhs_add_mul]
  rw [← affine_axis ax i' ex hex xd _ _ hx hi, ← hW 0 (by norm_num), ← hW 1 (by norm_num)]
  refine ev_congr _ _ _ _ fun a ha => ?_
  rw [← ev_aff]
  exact ev_congr _ _ _ _ fun b hb => by
    dsimp only; rw [show (4 * a + b) / 4 = a by omega, show (4 * a + b) % 4 = b by omega]

theorem multilinear_solves2 (m : Nat → Nat → α) (hx : ax.Distinct) (hi : i' + 3 ≤ ax.top) (hy : ay.Distinct)
    (hj : j' + 3 ≤ ay.top) :
    IsSol2 ax ay (i' + 1, j' + 1) (fun a b => ml2 m (ax.xn (i' + a)) (ay.xn (j' + b))) (embed2 m) := by
  have := isSol2_affine ax ay i' (j' + 1) (fun p b => m p 0 + m p 1 * ay.xn (j' + b)) (fun p => aff (m p 0) (m p 1))
    hx hi (fun p _ => affine_solves1 ay j' (m p 0) (m p 1) hy hj)
  refine isSol2_congr _ _ _ _ _ _ (fun a b _ _ => ?_) this
  simp only [ml2]; ring

theorem isSol3_affine (cell : Nat × Nat) (G : Nat → Nat → Nat → α) (W : Nat → Nat → α)
    (hx : ax.Distinct) (hi : i' + 3 ≤ ax.top)
    (h : ∀ p, p < 2 → IsSol2 ay az cell (G p) (W p)) :
    IsSol3 ax ay az (i' + 1, cell) (fun a b k => G 0 b k + G 1 b k * ax.xn (i' + a))
      (fun n => aff (W 0 (n % 16)) (W 1 (n % 16)) (n / 16)) := by
  rw [isSol3_iff]
  intro ex ey ez hex hey hez xd yd zd
  have hW := fun p hp => (isSol2_iff ay az cell (G p) (W p)).mp (h p hp) ey ez hey hez yd zd
  simp only [rhs3, rhs2, rhs_add_mul]
  rw [← affine_axis ax i' ex hex xd _ _ hx hi]
  simp only [rhs2] at hW
  rw [← hW 0 (by norm_num), ← hW 1 (by norm_num)]
  refine ev_congr _ _ _ _ fun a ha => ?_
  rw [← ev2_aff]
  exact ev2_congr _ _ _ _ _ _ fun n hn => by
    dsimp only; rw [show (16 * a + n) / 16 = a by omega, show (16 * a + n) % 16 = n by omega]

theorem multilinear_solves3 (m : Nat → Nat → Nat → α) (hx : ax.Distinct) (hi : i' + 3 ≤ ax.top) (hy : ay.Distinct)
    (hj : j' + 3 ≤ ay.top) (hz : az.Distinct) (hk : k' + 3 ≤ az.top) :
    IsSol3 ax ay az (i' + 1, j' + 1, k' + 1) (fun a b c => ml3 m (ax.xn (i' + a)) (ay.xn (j' + b)) (az.xn (k' + c))) (embed3 m) := by
  have := isSol3_affine ax ay az i' (j' + 1, k' + 1) (fun p b c => ml2 (m p) (ay.xn (j' + b)) (az.xn (k' + c)))
    (fun p => embed2 (m p)) hx hi (fun p _ => multilinear_solves2 ay az j' k' (m p) hy hj hz hk)
  refine isSol3_congr _ _ _ _ _ _ _ (fun a b c _ _ _ => ?_) this
  simp only [ml3, ml2]; ring

end Affine

end Cherab.Caching
