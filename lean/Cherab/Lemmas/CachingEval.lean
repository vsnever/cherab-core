import Cherab.Lemmas.CachingGrid
import Cherab.Lemmas.CachingInterp

/-!
Helper lemmas for C14: the hypotheses the end-to-end theorems are stated under (`ExtOK`, `AxisOK`, `NormOK`, the field
environment `envOf`), the order of the stencil lists, and from `evalPure` of the three concrete `Spec`s to the
constraint systems (`evalPure*_sol`).
-/
namespace Cherab.Caching
set_option linter.unusedSectionVars false

variable {α : Type} [Field α] [LinearOrder α] [IsStrictOrderedRing α]

/-- hypotheses on the external functions: C `pow`, and `numpy.linalg.solve` returns (when it returns) a vector that
satisfies every equation of the system it was given -/
structure ExtOK (E : Ext α) : Prop where
  powi : ∀ x n, E.powi x n = x ^ n
  solve : ∀ A b c, E.solve A b = some c → Solves A b c

/-- what the constructor establishes for an axis (`mkAxis_ok`) -/
structure AxisOK (ax : Axis α) : Prop where
  sorted : ax.Sorted
  top : 3 ≤ ax.top
  xn_eq : ∀ i, ax.xn i = (ax.dom i - ax.xmin) * ax.dinv
  dinv_ne : ax.dinv ≠ 0

theorem mkAxis_ok (trunc : α → Nat) (mn mx dx : α) (h : mn < mx) (hd : EPS < dx) : AxisOK (mkAxis trunc mn mx dx) :=
  ⟨mkAxis_sorted trunc mn mx dx h hd, mkAxis_top trunc mn mx dx, mkAxis_xn trunc mn mx dx,
    mkAxis_dinv_ne trunc mn mx dx h hd⟩

/-- what the constructor establishes for the value normalisation (`mkNorm_ok`) -/
structure NormOK (nm : Norm α) : Prop where
  delta_ne : nm.delta ≠ 0
  inv : nm.deltaInv = 1 / nm.delta

theorem mkNorm_ok (b : Option (α × α)) : NormOK (mkNorm b) := by
  cases b with
  | none => exact ⟨by simp [mkNorm], by simp [mkNorm]⟩
  | some lh =>
    obtain ⟨lo, hi⟩ := lh
    by_cases h : hi - lo = 0
    · exact ⟨by simp [mkNorm, h], by simp [mkNorm, h]⟩
    · exact ⟨by simp [mkNorm, h], by simp [mkNorm, h]⟩

/-- the float environment seen from an ordered field: no NaN, and a wrapped function that returns everywhere -/
def envOf {P : Type} (f : P → α) (nm : Norm α) : Env α P :=
  { f := fun p => some (f p), isnan := fun _ => false, nan := 0, norm := nm.apply }

theorem envOf_all {P ν : Type} (f : P → α) (nm : Norm α) (coord : ν → P) (L : List ν) :
    L.all (fun u => ((envOf f nm).f (coord u)).isSome) = true := by
  simp [envOf]

theorem evalPure_outside {P ν κ C : Type} [DecidableEq ν] [DecidableEq κ] (S S' : Spec α P ν κ C) (f : P → α)
    (nm nm' : Norm α) (nbe : Bool) {p : P} (h : S.locate p = none) (h' : S'.locate p = none) :
    evalPure S (envOf f nm) nbe p = evalPure S' (envOf f nm') nbe p := by
  rw [evalPure_none _ _ nbe h, evalPure_none _ _ nbe h']; rfl

theorem AxisOK.xn_ne {ax : Axis α} (h : AxisOK ax) (i j : Nat) (hij : i < j) (hj : j ≤ ax.top) :
    ax.xn j ≠ ax.xn i := by
  rw [h.xn_eq, h.xn_eq]
  intro e
  have := mul_right_cancel₀ h.dinv_ne e
  have h2 := h.sorted i j hij hj
  linarith

theorem AxisOK.dom_eq {ax : Axis α} (h : AxisOK ax) (i : Nat) : ax.dom i = ax.xn i / ax.dinv + ax.xmin := by
  rw [h.xn_eq]; field_simp [h.dinv_ne]; ring

theorem AxisOK.knot_ne {ax : Axis α} (h : AxisOK ax) {p : α} {i : Nat} (hc : cellOf ax p = some i) :
    ax.xn i ≠ ax.xn (i + 1) := by
  obtain ⟨-, hi, -, -⟩ := cellOf_some ax p i hc
  exact (h.xn_ne i (i + 1) (by omega) (by omega)).symm

theorem AxisOK.cellOf_dom {ax : Axis α} (h : AxisOK ax) {i : Nat} (h1 : 1 ≤ i) (h2 : i + 2 ≤ ax.top) :
    cellOf ax (ax.dom i) = some i :=
  cellOf_of_bracket ax h.sorted _ i h1 h2 le_rfl (h.sorted i (i + 1) (by omega) (by omega))

theorem NormOK.unapply {nm : Norm α} (h : NormOK nm) (v : α) : nm.delta * nm.apply v + nm.dmin = v := by
  unfold Norm.apply; rw [h.inv]; field_simp [h.delta_ne]; ring

theorem getElem?_flatMap_blocks {β γ : Type} (m : Nat) (f : β → List γ) (hf : ∀ u, (f u).length = m) (b : Nat)
    (hb : b < m) : ∀ (L : List β) (a : Nat), (L.flatMap f)[m * a + b]? = L[a]?.bind fun u => (f u)[b]?
  | [], a => by simp
  | x :: L, 0 => by simp [List.getElem?_append_left, hf, hb]
  | x :: L, a + 1 => by
    rw [List.flatMap_cons, List.getElem?_append_right (by rw [hf]; nlinarith), hf,
      show m * (a + 1) + b - m = m * a + b by rw [Nat.mul_succ]; omega, getElem?_flatMap_blocks m f hf b hb L a]
    rfl

theorem stencil1_getElem? (i' a : Nat) (ha : a < 4) : (stencil1 (i' + 1))[a]? = some (i' + a) := by
  interval_cases a <;> rfl

theorem stencil2_getElem? (i' j' a b : Nat) (ha : a < 4) (hb : b < 4) :
    (stencil2 (i' + 1, j' + 1))[4 * a + b]? = some (i' + a, j' + b) := by
  unfold stencil2
  rw [getElem?_flatMap_blocks 4 _ (fun u => by simp [stencil1]) _ hb, stencil1_getElem? _ _ ha]
  simp [stencil1_getElem? _ _ hb]

theorem stencil3_getElem? (i' j' k' a b k : Nat) (ha : a < 4) (hb : b < 4) (hk : k < 4) :
    (stencil3 (i' + 1, j' + 1, k' + 1))[16 * a + 4 * b + k]? = some (i' + a, j' + b, k' + k) := by
  unfold stencil3
  rw [Nat.add_assoc, getElem?_flatMap_blocks 16 _ (fun u => by simp [stencil1]) _ (by omega), stencil1_getElem? _ _ ha]
  simp only [Option.bind_some]
  rw [getElem?_flatMap_blocks 4 _ (fun u => by simp [stencil1]) _ hk, stencil1_getElem? _ _ hb]
  simp [stencil1_getElem? _ _ hk]

theorem getD_map_of_getElem? {β : Type} (L : List β) (g : β → α) (n : Nat) (u : β) (h : L[n]? = some u) :
    (L.map g).getD n 0 = g u := by
  simp [List.getD_eq_getElem?_getD, h]

theorem cellOf2_eq_some (ax ay : Axis α) (p : α × α) (cell : Nat × Nat) :
    cellOf2 ax ay p = some cell ↔ cellOf ax p.1 = some cell.1 ∧ cellOf ay p.2 = some cell.2 := by
  unfold cellOf2
  cases cellOf ax p.1 <;> cases cellOf ay p.2 <;> simp [Prod.ext_iff]

theorem cellOf3_eq_some (ax ay az : Axis α) (p : α × α × α) (cell : Nat × Nat × Nat) :
    cellOf3 ax ay az p = some cell ↔
      cellOf ax p.1 = some cell.1 ∧ cellOf ay p.2.1 = some cell.2.1 ∧ cellOf az p.2.2 = some cell.2.2 := by
  unfold cellOf3
  cases cellOf ax p.1 <;> cases cellOf ay p.2.1 <;> cases cellOf az p.2.2 <;> simp [Prod.ext_iff]

theorem cellOf2_dom {ax ay : Axis α} (hax : AxisOK ax) (hay : AxisOK ay) {i j : Nat} (hi1 : 1 ≤ i)
    (hi2 : i + 2 ≤ ax.top) (hj1 : 1 ≤ j) (hj2 : j + 2 ≤ ay.top) :
    cellOf2 ax ay (ax.dom i, ay.dom j) = some (i, j) :=
  (cellOf2_eq_some _ _ _ _).mpr ⟨hax.cellOf_dom hi1 hi2, hay.cellOf_dom hj1 hj2⟩

theorem cellOf3_dom {ax ay az : Axis α} (hax : AxisOK ax) (hay : AxisOK ay) (haz : AxisOK az) {i j k : Nat}
    (hi1 : 1 ≤ i) (hi2 : i + 2 ≤ ax.top) (hj1 : 1 ≤ j) (hj2 : j + 2 ≤ ay.top) (hk1 : 1 ≤ k) (hk2 : k + 2 ≤ az.top) :
    cellOf3 ax ay az (ax.dom i, ay.dom j, az.dom k) = some (i, j, k) :=
  (cellOf3_eq_some _ _ _ _ _).mpr ⟨hax.cellOf_dom hi1 hi2, hay.cellOf_dom hj1 hj2, haz.cellOf_dom hk1 hk2⟩

theorem poly1_congr (c c' : Nat → α) (q : α) (h : ∀ k, k < 4 → c k = c' k) : poly1 c q = poly1 c' q := by
  simp [poly1, h]
theorem poly3_congr (c c' : Nat → α) (q : α × α × α) (h : ∀ k, k < 64 → c k = c' k) : poly3 c q = poly3 c' q := by
  simp [poly3, cub, h]

theorem poly1_lin_e0 (c : Nat → α) (t u : α) (q : α) : poly1 (fun n => t * c n + u * e0 n) q = t * poly1 c q + u := by
  simp [poly1, e0]; ring
theorem poly2_lin_e0 (c : Nat → α) (t u : α) (q : α × α) :
    poly2 (fun n => t * c n + u * e0 n) q = t * poly2 c q + u := by
  rw [← ev2_false, ev2_lin, ev2_e0, ev2_false]; simp
theorem poly3_lin_e0 (c : Nat → α) (t u : α) (q : α × α × α) :
    poly3 (fun n => t * c n + u * e0 n) q = t * poly3 c q + u := by
  rw [← ev3_false, ev3_lin, ev3_e0, ev3_false]; simp

theorem poly2_embed (m : Nat → Nat → α) (x y : α) : poly2 (embed2 m) (x, y) = ml2 m x y := by
  simp [poly2, embed2, aff, ml2]; ring
theorem poly3_embed (m : Nat → Nat → Nat → α) (x y z : α) : poly3 (embed3 m) (x, y, z) = ml3 m x y z := by
  simp [poly3, cub, embed3, embed2, aff, ml3]; ring

/-! ### returned values in terms of the un-normalised data

A value returned inside a cell is `poly*` of `finish*` of what `solve` returned for the normalised stencil values.
`finish*` undoes both normalisations (`denorm*`), and rescaling the data rescales the solution (`isSol*_rescale`): the
value is the polynomial, evaluated in normalised coordinates, of a solution of the cell's system for the *raw*
function values at the stencil nodes — and that system has only one solution (`unique*`), so of any solution. -/

theorem nodeVal_envOf {P ν κ C : Type} (S : Spec α P ν κ C) (f : P → α) (nm : Norm α) :
    nodeVal S (envOf f nm) = fun u => nm.apply (f (S.coord u)) := by
  funext u; simp [nodeVal, envOf]

theorem evalPure1_sol (E : Ext α) (hE : ExtOK E) (ax : Axis α) (hax : AxisOK ax) (nm : Norm α) (hnm : NormOK nm)
    (f : α → α) (nbe : Bool) (p v : α) (i' : Nat) (hc : cellOf ax p = some (i' + 1))
    (h : evalPure (spec1 E ax nm) (envOf f nm) nbe p = .val v) :
    ∃ c, IsSol1 ax (i' + 1) (fun a => f (ax.dom (i' + a))) c ∧
      ∀ c', IsSol1 ax (i' + 1) (fun a => f (ax.dom (i' + a))) c' → v = poly1 c' ((p - ax.xmin) * ax.dinv) := by
  obtain ⟨co, hb, hv⟩ := evalPure_val _ _ nbe (show (spec1 E ax nm).locate p = some (i' + 1) from hc) h
  rw [nodeVal_envOf] at hb
  simp only [spec1] at hb hv
  obtain ⟨c, hs, rfl⟩ := Option.map_eq_some_iff.mp hb
  have hsol := isSol1_congr _ _ _ (fun a => f (ax.dom (i' + a))) _
    (fun a ha => by rw [getD_map_of_getElem? _ _ _ _ (stencil1_getElem? _ _ ha), hnm.unapply])
    (isSol1_rescale _ _ _ _ nm.delta nm.dmin ((solves_system1 ax _ _ c).mp (hE.solve _ _ c hs)))
  refine ⟨_, hsol, fun c' hc' => ?_⟩
  rw [hv, denorm1 E hE.powi, ← poly1_lin_e0]
  exact poly1_congr _ _ _ (unique1 ax _ _ _ _ (hax.knot_ne hc) hsol hc')

theorem evalPure2_sol (E : Ext α) (hE : ExtOK E) (ax ay : Axis α) (hax : AxisOK ax) (hay : AxisOK ay) (nm : Norm α)
    (hnm : NormOK nm) (f : α × α → α) (nbe : Bool) (p : α × α) (v : α) (i' j' : Nat)
    (hc : cellOf2 ax ay p = some (i' + 1, j' + 1))
    (h : evalPure (spec2 E ax ay nm) (envOf f nm) nbe p = .val v) :
    ∃ c, IsSol2 ax ay (i' + 1, j' + 1) (fun a b => f (ax.dom (i' + a), ay.dom (j' + b))) c ∧
      ∀ c', IsSol2 ax ay (i' + 1, j' + 1) (fun a b => f (ax.dom (i' + a), ay.dom (j' + b))) c' →
        v = poly2 c' ((p.1 - ax.xmin) * ax.dinv, (p.2 - ay.xmin) * ay.dinv) := by
  obtain ⟨co, hb, hv⟩ := evalPure_val _ _ nbe (show (spec2 E ax ay nm).locate p = some (i' + 1, j' + 1) from hc) h
  rw [nodeVal_envOf] at hb
  simp only [spec2] at hb hv
  obtain ⟨c, hs, rfl⟩ := Option.map_eq_some_iff.mp hb
  have hsol := isSol2_congr _ _ _ _ (fun a b => f (ax.dom (i' + a), ay.dom (j' + b))) _
    (fun a b ha hb => by
      rw [getD_map_of_getElem? _ _ _ _ (stencil2_getElem? _ _ _ _ ha hb), hnm.unapply])
    (isSol2_rescale _ _ _ _ _ nm.delta nm.dmin ((solves_system2 ax ay _ _ c).mp (hE.solve _ _ c hs)))
  obtain ⟨hcx, hcy⟩ := (cellOf2_eq_some _ _ _ _).mp hc
  refine ⟨_, hsol, fun c' hc' => ?_⟩
  rw [hv, denorm2 E hE.powi, ← poly2_lin_e0]
  exact poly2_congr _ _ _ (unique2 ax ay _ _ _ _ (hax.knot_ne hcx) (hay.knot_ne hcy) hsol hc')

theorem evalPure3_sol (E : Ext α) (hE : ExtOK E) (ax ay az : Axis α) (hax : AxisOK ax) (hay : AxisOK ay)
    (haz : AxisOK az) (nm : Norm α) (hnm : NormOK nm) (f : α × α × α → α) (nbe : Bool) (p : α × α × α) (v : α)
    (i' j' k' : Nat) (hc : cellOf3 ax ay az p = some (i' + 1, j' + 1, k' + 1))
    (h : evalPure (spec3 E ax ay az nm) (envOf f nm) nbe p = .val v) :
    ∃ c, IsSol3 ax ay az (i' + 1, j' + 1, k' + 1)
        (fun a b k => f (ax.dom (i' + a), ay.dom (j' + b), az.dom (k' + k))) c ∧
      ∀ c', IsSol3 ax ay az (i' + 1, j' + 1, k' + 1)
          (fun a b k => f (ax.dom (i' + a), ay.dom (j' + b), az.dom (k' + k))) c' →
        v = poly3 c' ((p.1 - ax.xmin) * ax.dinv, (p.2.1 - ay.xmin) * ay.dinv, (p.2.2 - az.xmin) * az.dinv) := by
  obtain ⟨co, hb, hv⟩ :=
    evalPure_val _ _ nbe (show (spec3 E ax ay az nm).locate p = some (i' + 1, j' + 1, k' + 1) from hc) h
  rw [nodeVal_envOf] at hb
  simp only [spec3] at hb hv
  obtain ⟨c, hs, rfl⟩ := Option.map_eq_some_iff.mp hb
  have hsol := isSol3_congr _ _ _ _ _ (fun a b k => f (ax.dom (i' + a), ay.dom (j' + b), az.dom (k' + k))) _
    (fun a b k ha hb hk => by
      rw [getD_map_of_getElem? _ _ _ _ (stencil3_getElem? _ _ _ _ _ _ ha hb hk), hnm.unapply])
    (isSol3_rescale _ _ _ _ _ _ nm.delta nm.dmin ((solves_system3 ax ay az _ _ c).mp (hE.solve _ _ c hs)))
  obtain ⟨hcx, hcy, hcz⟩ := (cellOf3_eq_some _ _ _ _ _).mp hc
  refine ⟨_, hsol, fun c' hc' => ?_⟩
  rw [hv, denorm3 E hE.powi, ← poly3_lin_e0]
  exact poly3_congr _ _ _ (unique3 ax ay az _ _ _ _ (hax.knot_ne hcx) (hay.knot_ne hcy) (haz.knot_ne hcz) hsol hc')

end Cherab.Caching
