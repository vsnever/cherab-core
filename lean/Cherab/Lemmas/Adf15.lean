import Cherab.Lemmas.Adf

/-!
Helper lemmas for the ADF15 part of C08: reading a block body, grouping the file into blocks, looking a block up by
its ISEL number, scraping the index section.
-/
namespace Cherab.Adf

variable {α ω σ : Type}

/-- the canonical views at the ambient token types -/
abbrev L15 (α ω σ : Type) : Lex15 (K15 α ω σ) α ω σ := lexK15

def blkLines (b : Blk15 α ω) : List (List α) :=
  chunk 8 b.ne ++ chunk 8 b.te
    ++ (List.range b.ne.length).flatMap fun i => chunk 8 ((List.range b.te.length).map fun j => b.rate i j)

theorem renderBlk15_eq (b : Blk15 α ω) :
    renderBlk15 (σ := σ) b = .blockHdr b.wl b.ne.length b.te.length b.typ b.isel :: (blkLines b).map .data := by
  unfold renderBlk15 blkLines
  simp only [List.map_append, List.map_flatMap]

theorem split_data (xs : List α) : (L15 α ω σ).split (.data xs) = some xs := rfl

theorem reshape_table (n m : Nat) (rate : Nat → Nat → α) :
    reshape n m ((List.range n).flatMap fun i => (List.range m).map fun j => rate i j) = tabulate n m rate :=
  tabulate_of_lookup n m rate _ fun i hi j hj => getElem?_flatMap_range n m rate i j hi hj

theorem readBlock15_render (b : Blk15 α ω) (extra : List (K15 α ω σ)) :
    readBlock15 (L15 α ω σ) { numN := some b.ne.length, numT := some b.te.length, isel := some b.isel }
      ((blkLines b).map .data ++ extra) = .ok (rateOfBlk15 b) := by
  have h8 : 0 < 8 := by omega
  have rd := readToks_of_lines (split_data (α := α) (ω := ω) (σ := σ))
  simp only [readBlock15, blkLines, opt, bind, Except.bind, List.map_append, List.append_assoc,
    rd _ (chunk_ne_nil h8 b.ne) (chunk_flatten h8 b.ne) rfl, rd _ (chunk_ne_nil h8 b.te) (chunk_flatten h8 b.te) rfl,
    rd _ (flatMap_chunk_ne_nil h8 _ _) (flatten_flatMap_chunk h8 _ _) (length_flatMap_range _ _ fun i j => b.rate i j),
    reshape_table, pure, Except.pure]
  rfl

theorem groupAux_append (wl : K15 α ω σ → Bool) (R : List (K15 α ω σ)) :
    ∀ (ls buf : List (K15 α ω σ)), (∀ l ∈ ls, wl l = false) → groupAux wl (ls ++ R) buf = groupAux wl R (buf ++ ls) := by
  intro ls
  induction ls with
  | nil => intro buf _; rw [List.nil_append, List.append_nil]
  | cons l ls ih =>
    intro buf h
    obtain ⟨hl, hls⟩ := List.forall_mem_cons.mp h
    rw [List.cons_append, groupAux, if_neg (by rw [hl]; exact Bool.false_ne_true), ih _ hls, List.append_assoc,
      List.singleton_append]

theorem groupAux_head (wl : K15 α ω σ → Bool) :
    ∀ (R : List (K15 α ω σ)) (a : K15 α ω σ) (buf : List (K15 α ω σ)),
      ∃ extra more, groupAux wl R (a :: buf) = (a :: (buf ++ extra)) :: more := by
  intro R
  induction R with
  | nil => intro a buf; exact ⟨[], [], by rw [List.append_nil]; rfl⟩
  | cons l R ih =>
    intro a buf
    rw [groupAux]
    split
    · exact ⟨[], _, by rw [List.append_nil]; rfl⟩
    · obtain ⟨extra, more, h⟩ := ih a (buf ++ [l])
      exact ⟨l :: extra, more, by rw [List.cons_append, h, List.append_assoc]; rfl⟩

/-- the head line of a buffer does not identify block `k` -/
def SkipsHead (k : Nat) (h : K15 α ω σ) : Prop :=
  (L15 α ω σ).blockId h = none ∨ ∃ n t i, (L15 α ω σ).blockId h = some { numN := n, numT := t, isel := some i } ∧ (i == k) = false

theorem searchBlocks_skip (k : Nat) (h : K15 α ω σ) (body : List (K15 α ω σ)) (more : List (List (K15 α ω σ)))
    (hs : SkipsHead k h) : searchBlocks (L15 α ω σ) k ((h :: body) :: more) = searchBlocks (L15 α ω σ) k more := by
  rcases hs with hs | ⟨n, t, i, hs, hik⟩
  · simp [searchBlocks, hs]
  · simp [searchBlocks, hs, hik]

def findBlk (bs : List (Blk15 α ω)) (k : Nat) : Option (Blk15 α ω) := bs.find? (fun b => b.isel == k)

/-- stated for any open buffer `h :: body` that the search skips, so that the induction over the blocks goes through: the
header of a block closes the buffer of the block before it -/
theorem searchBlocks_render (k : Nat) (tl : List (K15 α ω σ)) (htl : ∀ l ∈ tl, (L15 α ω σ).wl l = false) :
    ∀ (bs : List (Blk15 α ω)) (h : K15 α ω σ) (body : List (K15 α ω σ)), SkipsHead k h →
      searchBlocks (L15 α ω σ) k (groupAux (L15 α ω σ).wl (bs.flatMap renderBlk15 ++ tl) (h :: body))
        = match findBlk bs k with
          | some b => .ok (rateOfBlk15 b)
          | none => .error .runtime := by
  intro bs
  induction bs with
  | nil =>
    intro h body hs
    have := groupAux_append _ [] tl (h :: body) htl
    rw [List.append_nil] at this
    rw [List.flatMap_nil, List.nil_append, this, groupAux, List.cons_append, searchBlocks_skip k h _ _ hs]
    rfl
  | cons b bs ih =>
    intro h body hs
    -- the header of `b` closes the open buffer, which is skipped; the data lines of `b` join the new one
    have hw : (L15 α ω σ).wl (.blockHdr b.wl b.ne.length b.te.length b.typ b.isel) = true := rfl
    rw [List.flatMap_cons, renderBlk15_eq, List.cons_append, List.cons_append, List.append_assoc, groupAux, if_pos hw,
      if_neg (by exact Bool.false_ne_true), searchBlocks_skip k h _ _ hs, groupAux_append _ _ _ _ (List.forall_mem_map.mpr fun _ _ => rfl), List.singleton_append]
    cases hk : b.isel == k with
    | true =>
      obtain ⟨extra, more, hg⟩ := groupAux_head (L15 α ω σ).wl (bs.flatMap renderBlk15 ++ tl)
        (.blockHdr b.wl b.ne.length b.te.length b.typ b.isel) ((blkLines b).map .data)
      have hid : (L15 α ω σ).blockId (.blockHdr b.wl b.ne.length b.te.length b.typ b.isel)
          = some { numN := some b.ne.length, numT := some b.te.length, isel := some b.isel } := rfl
      simp only [hg, searchBlocks, hid, hk, if_true, findBlk, List.find?_cons]
      exact readBlock15_render b extra
    | false =>
      rw [ih _ _ (Or.inr ⟨some b.ne.length, some b.te.length, b.isel, rfl, hk⟩)]
      simp only [findBlk, List.find?_cons, hk]

def cfgSection (t : Tab15 α ω σ) : List (K15 α ω σ) :=
  match t.dialect with
  | .full _ => [.cfgHeader, .comment] ++ t.cfgs.map (fun c => .cfgLine c.id c.conf c.spin c.l c.j) ++ [.comment]
  | _ => []

def idxSection (t : Tab15 α ω σ) : List (K15 α ω σ) :=
  [.idxHeader, .comment] ++ t.idx.map (renderIdx15 t.dialect) ++ [.comment, .comment]

def tail15 (t : Tab15 α ω σ) : List (K15 α ω σ) := [.comment, .comment] ++ cfgSection t ++ idxSection t

theorem render15_eq (t : Tab15 α ω σ) :
    render15 t = .fileHeader t.blocks.length :: (t.blocks.flatMap renderBlk15 ++ tail15 t) := by
  unfold render15 tail15 cfgSection idxSection
  cases t.dialect <;> simp only [List.append_assoc, List.cons_append, List.nil_append, List.append_nil]

def K15.isComment : K15 α ω σ → Bool
  | .blockHdr .. => false
  | .data _ => false
  | .fileHeader _ => false
  | _ => true

theorem renderIdx15_isComment (d : Dialect) (e : Idx15 ω) : (renderIdx15 (α := α) (σ := σ) d e).isComment = true := by
  cases d <;> rfl

theorem tail15_isComment (t : Tab15 α ω σ) : ∀ l ∈ tail15 t, l.isComment = true := by
  unfold tail15 cfgSection idxSection
  cases t.dialect <;>
    simp only [List.forall_mem_append, List.forall_mem_cons, List.forall_mem_map, List.not_mem_nil, false_imp_iff,
      implies_true, renderIdx15_isComment] <;>
    simp only [K15.isComment, and_self, implies_true]

theorem wl_of_isComment (l : K15 α ω σ) (h : l.isComment = true) : (L15 α ω σ).wl l = false := by
  cases l <;> first | rfl | cases h

/-- `_extract_rate` on a rendered file -/
theorem extractRate_render (t : Tab15 α ω σ) (k : Nat) :
    extractRate (L15 α ω σ) (render15 t) k
      = match findBlk t.blocks k with
        | some b => .ok (rateOfBlk15 b)
        | none => .error .runtime := by
  unfold extractRate
  rw [render15_eq, groupAux]
  show searchBlocks _ k (groupAux _ _ [K15.fileHeader t.blocks.length]) = _
  exact searchBlocks_render k (tail15 t) (fun l hl => wl_of_isComment l (tail15_isComment t l hl)) t.blocks _ [] (Or.inl rfl)

theorem dropUntil_append {ℓ : Type} (p : ℓ → Bool) (pre : List ℓ) (x : ℓ) (rest : List ℓ)
    (h : ∀ l ∈ pre, p l = false) (hx : p x = true) : dropUntil p (pre ++ x :: rest) = .ok (x :: rest) := by
  induction pre with
  | nil => rw [List.nil_append, dropUntil, if_pos hx]
  | cons a pre ih =>
    obtain ⟨ha, hpre⟩ := List.forall_mem_cons.mp h
    rw [List.cons_append, dropUntil, if_neg (by rw [ha]; exact Bool.false_ne_true)]
    exact ih hpre

theorem takeUntil_append {ℓ : Type} (p : ℓ → Bool) (pre : List ℓ) (x : ℓ) (rest : List ℓ)
    (h : ∀ l ∈ pre, p l = false) (hx : p x = true) : takeUntil p (pre ++ x :: rest) = .ok (pre, x :: rest) := by
  induction pre with
  | nil => rw [List.nil_append, takeUntil, if_pos hx]
  | cons a pre ih =>
    obtain ⟨ha, hpre⟩ := List.forall_mem_cons.mp h
    rw [List.cons_append, takeUntil, if_neg (by rw [ha]; exact Bool.false_ne_true), ih hpre]

def head15 (t : Tab15 α ω σ) : List (K15 α ω σ) :=
  .fileHeader t.blocks.length :: (t.blocks.flatMap renderBlk15 ++ [.comment, .comment])

theorem render15_split (t : Tab15 α ω σ) : render15 t = head15 t ++ (cfgSection t ++ idxSection t) := by
  rw [render15_eq, tail15, head15]
  simp only [List.append_assoc, List.cons_append]

theorem head15_views (t : Tab15 α ω σ) :
    ∀ l ∈ head15 t, (L15 α ω σ).idxHeader l = false ∧ (L15 α ω σ).cfgHeader l = false := by
  simp only [head15, List.forall_mem_cons, List.forall_mem_append, List.forall_mem_flatMap, renderBlk15_eq, List.forall_mem_map,
    List.not_mem_nil, false_imp_iff, implies_true, and_true]
  exact ⟨⟨rfl, rfl⟩, fun b _ => ⟨⟨rfl, rfl⟩, fun d _ => ⟨rfl, rfl⟩⟩, ⟨rfl, rfl⟩, ⟨rfl, rfl⟩⟩

theorem cfgSection_idxHeader (t : Tab15 α ω σ) : ∀ l ∈ cfgSection t, (L15 α ω σ).idxHeader l = false := by
  unfold cfgSection
  cases t.dialect with
  | full dot =>
    simp only [List.forall_mem_append, List.forall_mem_cons, List.forall_mem_map, List.not_mem_nil, false_imp_iff, implies_true,
      and_true]
    exact ⟨⟨⟨rfl, rfl⟩, fun _ _ => rfl⟩, rfl⟩
  | _ => exact fun _ h => nomatch h

/-- `while not re.match(pec_index_header_match, lines[0]): lines.pop(0)` stops at the index section -/
theorem dropUntil_idxHeader (t : Tab15 α ω σ) :
    dropUntil (L15 α ω σ).idxHeader (render15 t) = .ok (idxSection t) := by
  rw [render15_split, ← List.append_assoc]
  refine dropUntil_append _ _ _ _ (fun l hl => ?_) rfl
  rcases List.mem_append.mp hl with hl | hl
  · exact (head15_views t l hl).1
  · exact cfgSection_idxHeader t l hl

theorem scrapeWith_map (view : K15 α ω σ → Option (IdxMatch ω)) (r : Idx15 ω → K15 α ω σ) (en : Idx15 ω → Entry15 ω σ)
    (h : ∀ e, ∃ m, view (r e) = some m ∧ entryN m = .ok (en e)) (rest : List (K15 α ω σ)) (es : List (Entry15 ω σ))
    (hrest : scrapeWith view rest = .ok es) :
    ∀ (idx : List (Idx15 ω)), scrapeWith view (idx.map r ++ rest) = .ok (idx.map en ++ es) := by
  intro idx
  induction idx with
  | nil => exact hrest
  | cons e idx ih =>
    obtain ⟨m, hm, hen⟩ := h e
    simp only [List.map_cons, List.cons_append, scrapeWith, hm, hen, ih]

theorem scrapeWith_none (view : K15 α ω σ → Option (IdxMatch ω)) (ls : List (K15 α ω σ)) (h : ∀ l ∈ ls, view l = none) :
    scrapeWith (σ := σ) view ls = .ok [] := by
  induction ls with
  | nil => rfl
  | cons l ls ih =>
    obtain ⟨hl, hls⟩ := List.forall_mem_cons.mp h
    simp only [scrapeWith, hl]
    exact ih hls

def entryNOf (e : Idx15 ω) : Entry15 ω σ := { typ := e.typ, tr := (.n e.up, .n e.lo), block := e.isel, wl := e.wl }

/-- the body that `scrapeHydrogen` and `scrapeHydrogenLike` (`_scrape_metadata_hydrogen`, `_scrape_metadata_hydrogen_like`)
share, for either `view` -/
theorem scrapeWith_render (t : Tab15 α ω σ) (view : K15 α ω σ → Option (IdxMatch ω))
    (hh : view .idxHeader = none) (hc : view .comment = none)
    (h : ∀ e, ∃ m, view (renderIdx15 t.dialect e) = some m ∧ entryN (σ := σ) m = .ok (entryNOf e)) :
    (do let idx ← dropUntil (L15 α ω σ).idxHeader (render15 t); scrapeWith (σ := σ) view idx) = .ok (t.idx.map entryNOf) := by
  have htail : scrapeWith (σ := σ) view [.comment, .comment] = .ok [] := by simp only [scrapeWith, hc]
  have := scrapeWith_map view _ entryNOf h _ _ htail t.idx
  simp only [bind, Except.bind, dropUntil_idxHeader]
  unfold idxSection
  simp only [List.cons_append, List.nil_append, scrapeWith, hh, hc, this, List.append_nil]

/-- the hydrogen-like expression finds nothing in an index written in the hydrogen ("N= u - N= l") style:
this is what triggers the `bnd#` fallback -/
theorem scrapeHydrogenLike_on_hydrogen (t : Tab15 α ω σ) (hd : t.dialect = .hydrogen) :
    scrapeHydrogenLike (L15 α ω σ) (render15 t) = .ok [] := by
  unfold scrapeHydrogenLike
  simp only [bind, Except.bind, dropUntil_idxHeader]
  apply scrapeWith_none
  unfold idxSection
  simp only [hd, List.forall_mem_append, List.forall_mem_cons, List.forall_mem_map, List.not_mem_nil, false_imp_iff, implies_true,
    and_true]
  exact ⟨⟨⟨rfl, rfl⟩, fun _ _ => rfl⟩, rfl, rfl⟩

def cfgEntry (c : Cfg15 σ) : Nat × Level σ := (c.id, Level.cfg c.conf c.spin c.l c.j)

def cfgTable (t : Tab15 α ω σ) : List (Nat × Level σ) := dictOfList (t.cfgs.map cfgEntry)

theorem cfgDict_lines (rest : List (K15 α ω σ)) :
    ∀ (cs : List (Cfg15 σ)) (d : List (Nat × Level σ)), (∀ c ∈ cs, c.l ≤ 13) →
      cfgDict (L15 α ω σ) (cs.map (fun c => .cfgLine c.id c.conf c.spin c.l c.j) ++ rest) d
        = cfgDict (L15 α ω σ) rest ((cs.map cfgEntry).foldl (fun d kv => dictSet d kv.1 kv.2) d) := by
  intro cs
  induction cs with
  | nil => intro d _; rfl
  | cons c cs ih =>
    intro d h
    obtain ⟨hl, hcs⟩ := List.forall_mem_cons.mp h
    have hc : ¬ (13 < c.l) := Nat.not_lt.mpr hl
    have hv : (L15 α ω σ).cfg (.cfgLine c.id c.conf c.spin c.l c.j)
        = some { id := some c.id, conf := c.conf, spin := c.spin, l := some c.l, j := c.j } := rfl
    simp only [List.map_cons, List.cons_append, cfgDict, hv, hc, if_false, List.foldl_cons]
    exact ih _ hcs

def entryFOf (d : List (Nat × Level σ)) (e : Idx15 ω) : Option (Entry15 ω σ) :=
  match dictGet d e.up, dictGet d e.lo with
  | some u, some l => some { typ := e.typ, tr := (u, l), block := e.isel, wl := e.wl }
  | _, _ => none

theorem entryF_idx (d : List (Nat × Level σ)) (dot : Bool) (e : Idx15 ω) :
    ∃ m, (L15 α ω σ).idxF (renderIdx15 (.full dot) e) = some m ∧ entryF d m = opt .key (entryFOf d e) := by
  refine ⟨_, rfl, ?_⟩
  simp only [entryF, entryFOf, opt, bind, Except.bind]
  cases dictGet d e.up <;> cases dictGet d e.lo <;> rfl

theorem scrapeFullIdx_map (d : List (Nat × Level σ)) (dot : Bool) (rest : List (K15 α ω σ)) (es' : List (Entry15 ω σ))
    (hrest : scrapeFullIdx (L15 α ω σ).idxF d rest = .ok es') :
    ∀ (idx : List (Idx15 ω)), (∀ e ∈ idx, (entryFOf (σ := σ) d e).isSome) →
      scrapeFullIdx (L15 α ω σ).idxF d (idx.map (renderIdx15 (.full dot)) ++ rest) = .ok (idx.filterMap (entryFOf d) ++ es') := by
  intro idx
  induction idx with
  | nil => intro _; exact hrest
  | cons e idx ih =>
    intro h
    obtain ⟨he, hidx⟩ := List.forall_mem_cons.mp h
    obtain ⟨en, hen⟩ := Option.isSome_iff_exists.mp he
    obtain ⟨m, hm, hem⟩ := entryF_idx (α := α) d dot e
    simp only [List.map_cons, List.cons_append, scrapeFullIdx, hm, hem, hen, opt, ih hidx, List.filterMap_cons]

theorem scrapeFull_render (t : Tab15 α ω σ) (dot : Bool) (hd : t.dialect = .full dot)
    (hl : ∀ c ∈ t.cfgs, c.l ≤ 13) (hlev : ∀ e ∈ t.idx, (entryFOf (cfgTable t) e).isSome) :
    scrapeFull (L15 α ω σ) (render15 t) = .ok (t.idx.filterMap (entryFOf (cfgTable t))) := by
  have hcs : cfgSection t = .cfgHeader :: .comment :: (t.cfgs.map (fun c => .cfgLine c.id c.conf c.spin c.l c.j) ++ [.comment]) := by
    unfold cfgSection; rw [hd]; rfl
  have h1 : dropUntil (L15 α ω σ).cfgHeader (render15 t) = .ok (cfgSection t ++ idxSection t) := by
    rw [render15_split, hcs]
    exact dropUntil_append _ _ _ _ (fun l hl => (head15_views t l hl).2) rfl
  have h2 : takeUntil (L15 α ω σ).idxHeader (cfgSection t ++ idxSection t) = .ok (cfgSection t, idxSection t) :=
    takeUntil_append _ _ _ _ (cfgSection_idxHeader t) rfl
  have h3 : cfgDict (L15 α ω σ) (cfgSection t) [] = .ok (cfgTable t) := by
    have hh : (L15 α ω σ).cfg .cfgHeader = none := rfl
    have hc : (L15 α ω σ).cfg .comment = none := rfl
    rw [hcs]
    simp only [cfgDict, hh, hc, cfgDict_lines _ _ _ hl]
    rfl
  have hh : (L15 α ω σ).idxF .idxHeader = none := rfl
  have hc : (L15 α ω σ).idxF .comment = none := rfl
  have h4 := scrapeFullIdx_map (α := α) (cfgTable t) dot [.comment, .comment] [] (by simp only [scrapeFullIdx, hc]) t.idx hlev
  unfold scrapeFull
  simp only [bind, Except.bind, h1, h2, h3]
  unfold idxSection
  simp only [List.cons_append, List.nil_append, scrapeFullIdx, hh, hc, hd, h4, List.append_nil]

end Cherab.Adf
