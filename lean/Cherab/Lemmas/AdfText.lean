import Cherab.Model.AdfText
import Cherab.Lemmas.Adf

/-!
Helper lemmas about the text layer of C08 (`Model/AdfText.lean`): fields of a Fortran list write.
-/
namespace Cherab.Adf.Text

/-- a token that survives fixed-width slicing and blank splitting: not empty, fits in `n` columns, contains no blank -/
structure WFTok (n : Nat) (t : Cs) : Prop where
  ne : t ≠ []
  len : t.length ≤ n
  nows : ∀ c ∈ t, isWs c = false

theorem isWs_blank : isWs ' ' = true := by decide

theorem length_rjC (w : Nat) (t : Cs) (h : t.length ≤ w) : (rjC w t).length = w := by
  simp [rjC]; omega

theorem dropWhile_ws_tok (t : Cs) (hw : ∀ c ∈ t, isWs c = false) : t.dropWhile isWs = t := by
  cases t with
  | nil => rfl
  | cons c t => rw [List.dropWhile_cons_of_neg (by rw [hw c List.mem_cons_self]; exact Bool.false_ne_true)]

theorem dropWhile_ws_blanks (m : Nat) (r : Cs) : (List.replicate m ' ' ++ r).dropWhile isWs = r.dropWhile isWs := by
  induction m with
  | zero => rfl
  | succ m ih =>
    simp [List.replicate_succ, isWs_blank, ih]

theorem trim_padded (m : Nat) (t : Cs) (hw : ∀ c ∈ t, isWs c = false) : trim (List.replicate m ' ' ++ t) = t := by
  unfold trim
  rw [dropWhile_ws_blanks, dropWhile_ws_tok t hw, dropWhile_ws_tok t.reverse fun c hc => hw c (List.mem_reverse.mp hc),
    List.reverse_reverse]

theorem rjC_blank (w : Nat) (t : Cs) (h : t.length ≤ w - 1) (hw : 0 < w) :
    ∃ m, rjC w t = ' ' :: (List.replicate m ' ' ++ t) ∧ m + t.length = w - 1 := by
  obtain ⟨m, e⟩ : ∃ m, w - t.length = m + 1 := ⟨w - t.length - 1, by omega⟩
  exact ⟨m, by rw [rjC, e, List.replicate_succ, List.cons_append], by omega⟩

/-- the slice is that of utility.py `readvalues`, `line[1+k*10:(k+1)*10]`, at any field width `w` -/
theorem field_slice (w : Nat) (hw : 0 < w) (toks : List Cs) (h : ∀ t ∈ toks, WFTok (w - 1) t) (k : Nat) (hk : k < toks.length) :
    trim (slice (fieldsLine w toks) (1 + w * k) (w * (k + 1))) = toks[k] := by
  unfold slice fieldsLine
  have hu : ∀ l ∈ toks.map (rjC w), l.length = w :=
    List.forall_mem_map.mpr fun t ht => length_rjC w t (by have := (h t ht).len; omega)
  have ht := h toks[k] (List.getElem_mem hk)
  obtain ⟨m, hf, hm⟩ := rjC_blank w toks[k] ht.len hw
  -- drop `k` whole fields and the leading blank of the next; what is left of that field is blanks and the token
  rw [show w * (k + 1) - (1 + w * k) = w - 1 by rw [Nat.mul_succ]; omega, Nat.add_comm 1 (w * k), ← List.drop_drop,
    drop_flatten_uniform w k _ hu, ← List.map_drop, List.drop_eq_getElem_cons hk, List.map_cons, List.flatten_cons, hf,
    List.cons_append, List.drop_succ_cons, List.drop_zero,
    List.take_left' (by rw [List.length_append, List.length_replicate]; exact hm)]
  exact trim_padded m toks[k] ht.nows

theorem go_blanks (m : Nat) (r : Cs) : splitWs.go (List.replicate m ' ' ++ r) [] = splitWs.go r [] := by
  induction m with
  | zero => rfl
  | succ m ih =>
    simp [List.replicate_succ, splitWs.go, isWs_blank, ih]

theorem go_tok (r : Cs) : ∀ (t cur : Cs), (∀ c ∈ t, isWs c = false) →
    splitWs.go (t ++ r) cur = splitWs.go r (t.reverse ++ cur) := by
  intro t
  induction t with
  | nil => intro cur _; rfl
  | cons c t ih =>
    intro cur h
    obtain ⟨hc, ht⟩ := List.forall_mem_cons.mp h
    simp only [List.cons_append, splitWs.go, hc, Bool.false_eq_true, if_false]
    rw [ih (c :: cur) ht]
    simp

/-- `WFTok (w - 1)` leaves a blank in front of every token, which is what ends the token before it; `cur` is the token pending
when the line starts -/
theorem go_fields (w : Nat) : ∀ (toks : List Cs), (∀ t ∈ toks, WFTok (w - 1) t) → 0 < w →
    ∀ cur : Cs, splitWs.go (fieldsLine w toks) cur = (if cur = [] then [] else [cur.reverse]) ++ toks := by
  intro toks
  induction toks with
  | nil => intro _ _ cur; simp only [fieldsLine, List.map_nil, List.flatten_nil, splitWs.go, List.append_nil]
  | cons t ts ih =>
    intro h hw cur
    obtain ⟨ht, hts⟩ := List.forall_mem_cons.mp h
    obtain ⟨m, hf, _⟩ := rjC_blank w t ht.len hw
    have hfl : fieldsLine w (t :: ts) = ' ' :: (List.replicate m ' ' ++ (t ++ fieldsLine w ts)) := by
      rw [fieldsLine, List.map_cons, List.flatten_cons, hf, List.cons_append, List.append_assoc]; rfl
    -- after the first blank: more blanks, the token, and the remaining fields with that token pending
    have hrest : splitWs.go (List.replicate m ' ' ++ (t ++ fieldsLine w ts)) [] = t :: ts := by
      rw [go_blanks, go_tok _ t [] ht.nows, List.append_nil, ih hts hw,
        if_neg (by simpa using ht.ne), List.reverse_reverse]
      rfl
    rw [hfl, splitWs.go]
    simp only [isWs_blank, if_true, hrest]
    split <;> rfl

end Cherab.Adf.Text
