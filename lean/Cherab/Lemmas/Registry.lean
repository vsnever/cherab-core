import Cherab.Model.Registry
import Cherab.Model.Periodic
import Mathlib.Data.List.Nodup
import Mathlib.Data.List.Induction
import Mathlib.Tactic.Linarith
import Mathlib.Tactic.Ring

/-!
Helper lemmas for C19 (all general: any table, any objects, any field lists).
* soundness of the Boolean checks of `Model/Registry.lean` (`nodupB`, `pairwiseB`, `beq`s, `subseqB`, `idxOk`, `weightNear`)
  and of `dropRepeats`, defined here;
* the dictionary semantics of `buildIndex`: a lookup returns the *last* object (in `dir()` order) owning the key,
  hence round-trip ⇔ collision-freeness, and a collision-free index holds exactly the pairs (key, owner), for every table;
* the lookups read a `str` / `int` argument only through its lower-cased `str()`; with a `number`, `lookup_isotope`
  goes through `lookup_element`;
* `==` implies equal `hash` arguments whenever the hash fields are among the equality fields; `!=` is the negation
  of `==` whenever the two field lists have the same members; reflexivity; the same for `Line`, field by field;
* `lower` is a byte-wise map and distributes over `+` when the suffix is left alone;
* the string code is injective on NUL-free byte strings.
-/
namespace Cherab.Registry

theorem nbeq {a b : Nat} : a.beq b = true ↔ a = b := ⟨Nat.eq_of_beq_eq_true, fun h => h ▸ Nat.beq_refl a⟩

theorem nbeq_false {a b : Nat} (h : a ≠ b) : a.beq b = false := by
  cases hh : a.beq b
  · rfl
  · exact absurd (nbeq.mp hh) h

theorem nbeq_comm (a b : Nat) : a.beq b = b.beq a := by
  rw [Bool.eq_iff_iff, nbeq, nbeq, eq_comm]

theorem El.beq_iff {a b : El} : a.beq b = true ↔ a = b := by
  cases a; cases b
  simp only [El.beq, Bool.and_eq_true, nbeq, El.mk.injEq, and_assoc]

theorem Iso.beq_iff {a b : Iso} : a.beq b = true ↔ a = b := by
  cases a; cases b
  simp only [Iso.beq, Bool.and_eq_true, El.beq_iff, nbeq, Iso.mk.injEq, and_assoc]

theorem optElIs_iff {o : Option El} {e : El} : optElIs o e = true ↔ o = some e := by
  cases o <;> simp [optElIs, El.beq_iff]

theorem optIsoIs_iff {o : Option Iso} {i : Iso} : optIsoIs o i = true ↔ o = some i := by
  cases o <;> simp [optIsoIs, Iso.beq_iff]

theorem memEl_iff {e : El} {l : List El} : memEl e l = true ↔ e ∈ l := by
  simp [memEl, List.any_eq_true, El.beq_iff]

theorem Iso.memB_iff {i : Iso} {l : List Iso} : i.memB l = true ↔ i ∈ l := by
  simp [Iso.memB, List.any_eq_true, Iso.beq_iff]

theorem nodupB_sound : ∀ {l : List Nat}, nodupB l = true → l.Nodup
  | [], _ => List.nodup_nil
  | x :: xs, h => by
    simp only [nodupB, Bool.and_eq_true, Bool.not_eq_true', List.any_eq_false] at h
    refine List.nodup_cons.mpr ⟨fun hx => ?_, nodupB_sound h.2⟩
    exact (h.1 x hx) (nbeq.mpr rfl)

theorem pairwiseB_sound {α : Type} {r : α → α → Bool} :
    ∀ {l : List α}, pairwiseB r l = true → l.Pairwise (fun a b => r a b = true ∧ r b a = true)
  | [], _ => List.Pairwise.nil
  | x :: xs, h => by
    simp only [pairwiseB, Bool.and_eq_true, List.all_eq_true] at h
    exact List.Pairwise.cons (fun y hy => h.1 y hy) (pairwiseB_sound h.2)

/-! ### dictionary semantics of the index builders (every table, every key function) -/

section index
variable {α : Type}

theorem get?_cons (k' : Nat) (v : α) (t : Index α) (k : Nat) :
    Index.get? ((k', v) :: t) k = if k = k' then some v else Index.get? t k := by
  simp only [Index.get?, nbeq, @eq_comm _ k k']

/-- one pass of the builder's loop body: the object takes over exactly its own keys -/
theorem get?_addKeys (keys : α → List Nat) (idx : Index α) (o : α) (k : Nat) :
    Index.get? (addKeys keys idx o) k = if k ∈ keys o then some o else Index.get? idx k := by
  unfold addKeys
  generalize keys o = ks
  induction ks generalizing idx with
  | nil => simp
  | cons k' ks ih =>
    rw [List.foldl_cons, ih, Index.set, get?_cons]
    by_cases h : k ∈ ks <;> simp [h]

/-- **last writer wins**: reading key `k` from the built index returns the last object in `dir()` order that owns `k` -/
theorem get?_buildIndex (keys : α → List Nat) (objs : List α) (k : Nat) :
    Index.get? (buildIndex keys objs) k = objs.reverse.find? fun o => decide (k ∈ keys o) := by
  unfold buildIndex
  induction objs using List.reverseRecOn with
  | nil => rfl
  | append_singleton os o ih =>
    -- the object added last is the first one the search from the end meets
    rw [List.foldl_concat, get?_addKeys, ih, List.reverse_concat, List.find?_cons]
    by_cases hk : k ∈ keys o <;> simp [hk]

/-- collision-free tables: no key is owned by two different objects -/
def CollisionFree (keys : α → List Nat) (objs : List α) : Prop :=
  ∀ a ∈ objs, ∀ b ∈ objs, ∀ k, k ∈ keys a → k ∈ keys b → a = b

/-- every object is found under each of its keys -/
def RoundTrip (keys : α → List Nat) (objs : List α) : Prop :=
  ∀ a ∈ objs, ∀ k ∈ keys a, Index.get? (buildIndex keys objs) k = some a

/-- an object outside the table, or a key nobody owns, is never returned -/
theorem get?_buildIndex_sound (keys : α → List Nat) (objs : List α) (k : Nat) (o : α)
    (h : Index.get? (buildIndex keys objs) k = some o) : o ∈ objs ∧ k ∈ keys o := by
  rw [get?_buildIndex] at h
  exact ⟨List.mem_reverse.mp (List.mem_of_find?_eq_some h), by simpa using List.find?_some h⟩

theorem get?_buildIndex_isSome (keys : α → List Nat) {objs : List α} {a : α} (ha : a ∈ objs) {k : Nat}
    (hk : k ∈ keys a) : (Index.get? (buildIndex keys objs) k).isSome := by
  rw [get?_buildIndex, List.find?_isSome]
  exact ⟨a, List.mem_reverse.mpr ha, by simpa using hk⟩

/-- any oracle that maps every key of every object to that object certifies collision-freeness -/
theorem collisionFree_of_oracle {α : Type} {keys : α → List Nat} {objs : List α} (f : Nat → Option α)
    (h : ∀ o ∈ objs, ∀ k ∈ keys o, f k = some o) : CollisionFree keys objs :=
  fun a ha b hb k hka hkb => Option.some.inj ((h a ha k hka).symm.trans (h b hb k hkb))

/-- for every table and key function: all round trips succeed **iff** the keys are collision-free -/
theorem roundTrip_iff_collisionFree (keys : α → List Nat) (objs : List α) :
    RoundTrip keys objs ↔ CollisionFree keys objs := by
  constructor
  · -- the built index is itself such an oracle
    exact collisionFree_of_oracle _
  · intro h a ha k hk
    -- the key is bound, to an owner from the table; collision-freeness makes that owner `a`
    obtain ⟨b, hb⟩ := Option.isSome_iff_exists.mp (get?_buildIndex_isSome keys ha hk)
    obtain ⟨hbo, hkb⟩ := get?_buildIndex_sound keys objs k b hb
    rw [hb, h a ha b hbo k hk hkb]

theorem get?_buildIndex_iff {keys : α → List Nat} {objs : List α} (h : CollisionFree keys objs) (k : Nat) (o : α) :
    Index.get? (buildIndex keys objs) k = some o ↔ o ∈ objs ∧ k ∈ keys o :=
  ⟨get?_buildIndex_sound keys objs k o, fun ⟨ho, hk⟩ => (roundTrip_iff_collisionFree keys objs).mpr h o ho k hk⟩

end index

/-! ### lookups depend on the spelling only through its lower-case form -/

theorem lookupElement_str (eidx : Index El) (s : Nat) : lookupElement eidx (.str s) = eidx.get? (lower s) := rfl

theorem lookupElement_int (eidx : Index El) (n : Int) : lookupElement eidx (.int n) = eidx.get? (lower (strInt n)) := rfl

theorem lookupElement_case (eidx : Index El) {s t : Nat} (h : lower s = lower t) :
    lookupElement eidx (.str s) = lookupElement eidx (.str t) := by
  rw [lookupElement_str, lookupElement_str, h]

theorem lookupIsotope_str (eidx : Index El) (iidx : Index Iso) (s : Nat) :
    lookupIsotope eidx iidx (.str s) none = iidx.get? (lower s) := rfl

theorem lookupIsotope_case (eidx : Index El) (iidx : Index Iso) {s t : Nat} (h : lower s = lower t)
    (number : Option Int) : lookupIsotope eidx iidx (.str s) number = lookupIsotope eidx iidx (.str t) number := by
  simp only [lookupIsotope, lookupElement, Query.str', h]

/-- with a mass number the isotope lookup depends on `v` only through `lookup_element(v)` -/
theorem lookupIsotope_number (eidx : Index El) (iidx : Index Iso) (q : Query) (hq : ∀ j, q ≠ .isot j)
    (n : Int) (hn : n ≠ 0) :
    lookupIsotope eidx iidx q (some n) =
      (lookupElement eidx q).bind fun e => iidx.get? (lower (cat e.sym (strInt n))) := by
  cases q with
  | isot j => exact absurd rfl (hq j)
  | elem _ | str _ | int _ =>
    simp only [lookupIsotope, hn, if_false]
    generalize lookupElement eidx _ = o
    cases o <;> rfl

theorem efEq_refl (f : EField) (a : El) : efEq f a a = true := by
  cases f <;> simp [efEq]

theorem efEq_symm (f : EField) (a b : El) : efEq f a b = efEq f b a := by
  cases f
  case name | symbol | atomicNumber => exact nbeq_comm _ _
  case atomicWeight => rw [efEq, efEq, nbeq_comm a.wNum, nbeq_comm a.wDen]

theorem efEq_val {f : EField} {a b : El} (h : efEq f a b = true) : efVal f a = efVal f b := by
  cases f
  case name | symbol | atomicNumber => exact congrArg HVal.n (nbeq.mp h)
  case atomicWeight =>
    rw [efEq, Bool.and_eq_true] at h
    exact congrArg₂ HVal.w (nbeq.mp h.1) (nbeq.mp h.2)

theorem elEq_refl (c : CmpCfg) (a : El) : elEq c a a = true := by
  simp [elEq, List.all_eq_true, efEq_refl]

theorem elEq_symm (c : CmpCfg) (a b : El) : elEq c a b = elEq c b a := by
  unfold elEq
  congr 1
  funext f
  exact efEq_symm f a b

theorem elNe_refl (c : CmpCfg) (a : El) : elNe c a a = false := by
  simp [elNe, efEq_refl]

theorem ifEq_refl (c : CmpCfg) (f : IField) (a : Iso) : ifEq c f a a = true := by
  cases f <;> simp [ifEq, efEq_refl, elEq_refl]

theorem isoEq_refl (c : CmpCfg) (a : Iso) : isoEq c a a = true := by
  simp [isoEq, List.all_eq_true, ifEq_refl]

/-- two species objects of the same exact type -/
def SameKind : Sp → Sp → Prop
  | .el _, .el _ => True
  | .iso _, .iso _ => True
  | _, _ => False

theorem pyEq_refl (c : CmpCfg) (s : Sp) : pyEq c s s = true := by
  cases s <;> simp [pyEq, elEq_refl, isoEq_refl]

theorem pyEq_symm_el (c : CmpCfg) (a : El) (b : Iso) : pyEq c (.el a) (.iso b) = pyEq c (.iso b) (.el a) := rfl

/-! `==` implies equal `hash` arguments, provided the hash fields are among the compared fields -/

section hash
variable {c : CmpCfg} (hsubE : c.elHash ⊆ c.elEq)
include hsubE

theorem elEq_hash {a b : El} (h : elEq c a b = true) : elHash c a = elHash c b := by
  simp only [elEq, List.all_eq_true] at h
  exact List.map_congr_left fun f hf => efEq_val (h f (hsubE hf))

theorem ifEq_val {f : IField} {a b : Iso} (h : ifEq c f a b = true) : ifVal c f a = ifVal c f b := by
  cases f with
  | inh g => exact efEq_val h
  | massNumber => exact congrArg HVal.n (nbeq.mp h)
  | element => exact congrArg HVal.tup (elEq_hash hsubE h)

variable (hsubI : c.isoHash ⊆ c.isoEq)
include hsubI

theorem isoEq_hash {a b : Iso} (h : isoEq c a b = true) : isoHash c a = isoHash c b := by
  simp only [isoEq, List.all_eq_true] at h
  exact List.map_congr_left fun f hf => ifEq_val hsubE (h f (hsubI hf))

theorem pyEq_hash_sameKind {a b : Sp} (hk : SameKind a b) (h : pyEq c a b = true) : spHash c a = spHash c b := by
  cases a <;> cases b <;> simp only [SameKind] at hk
  · exact elEq_hash hsubE h
  · exact isoEq_hash hsubE hsubI h

/-- with the `strictKind` guard a mixed pair is never `==`, so this holds for **all** species -/
theorem pyEq_hash_strict (hs : c.strictKind = true) {a b : Sp} (h : pyEq c a b = true) :
    spHash c a = spHash c b := by
  cases a <;> cases b
  · exact elEq_hash hsubE h
  · simp [pyEq, hs] at h
  · simp [pyEq, hs] at h
  · exact isoEq_hash hsubE hsubI h

end hash

/-! `x != y` is `not (x == y)` when op 2 and op 3 mention the same fields: an `or`-chain of negations over the same
members is the negated `and`-chain -/

theorem any_congr_mem {β : Type} {l l' : List β} (h : l ⊆ l' ∧ l' ⊆ l) (q : β → Bool) : l.any q = l'.any q := by
  rw [Bool.eq_iff_iff, List.any_eq_true, List.any_eq_true]
  exact ⟨fun ⟨f, hf, hq⟩ => ⟨f, h.1 hf, hq⟩, fun ⟨f, hf, hq⟩ => ⟨f, h.2 hf, hq⟩⟩

section ne
variable {c : CmpCfg} (hE : c.elNe ⊆ c.elEq ∧ c.elEq ⊆ c.elNe)
include hE

theorem elNe_eq_not (a b : El) : elNe c a b = !elEq c a b := by
  rw [elNe, elEq, any_congr_mem hE, List.not_all_eq_any_not]

theorem ifNe_eq_not (f : IField) (a b : Iso) : ifNe c f a b = !ifEq c f a b := by
  cases f
  · rfl
  · rfl
  · exact elNe_eq_not hE _ _

variable (hI : c.isoNe ⊆ c.isoEq ∧ c.isoEq ⊆ c.isoNe)
include hI

theorem isoNe_eq_not (a b : Iso) : isoNe c a b = !isoEq c a b := by
  simp only [isoNe, isoEq, ifNe_eq_not hE]
  rw [any_congr_mem hI, List.not_all_eq_any_not]

theorem pyNe_eq_not (a b : Sp) : pyNe c a b = !pyEq c a b := by
  cases a <;> cases b <;> simp only [pyNe, pyEq, elNe_eq_not hE, isoNe_eq_not hE hI]
  all_goals cases c.strictKind <;> rfl

end ne

/-- species whose names differ compare unequal, as soon as `name` is among the compared fields of both classes -/
theorem pyEq_false_of_name_ne {c : CmpCfg} (hE : EField.name ∈ c.elEq) (hI : IField.inh .name ∈ c.isoEq)
    {a b : Sp} (h : a.base.name ≠ b.base.name) : pyEq c a b = false := by
  have hn : ∀ x y : El, x.name ≠ y.name → elEq c x y = false := fun x y hxy =>
    List.all_eq_false.mpr ⟨.name, hE, by simp [efEq, hxy]⟩
  cases a <;> cases b <;> simp only [pyEq, Sp.base] at *
  · exact hn _ _ h
  · rw [hn _ _ h, ite_self]
  · rw [hn _ _ (fun e => h e.symm), ite_self]
  · exact List.all_eq_false.mpr ⟨.inh .name, hI, by simp [ifEq, efEq, h]⟩

/-! ### lines: `==`, `!=` and `hash` go field by field, the element field through the species comparison -/

section line
variable {τ : Type} [DecidableEq τ] {c : CmpCfg}

theorem lineEq_iff (hL : ∀ f : LField, f ∈ c.lineEq) (a b : Line τ) :
    lineEq c a b = true ↔
      pyEq c a.element b.element = true ∧ a.charge = b.charge ∧ a.transition = b.transition := by
  simp only [lineEq, List.all_eq_true]
  constructor
  · intro h
    exact ⟨h .element (hL _), of_decide_eq_true (h .charge (hL _)), of_decide_eq_true (h .transition (hL _))⟩
  · rintro ⟨h1, h2, h3⟩ f _
    cases f
    · exact h1
    · exact decide_eq_true h2
    · exact decide_eq_true h3

theorem lineEq_hash (hsub : c.lineHash ⊆ c.lineEq) {a b : Line τ}
    (hsp : pyEq c a.element b.element = true → spHash c a.element = spHash c b.element)
    (h : lineEq c a b = true) : lineHash c a = lineHash c b := by
  simp only [lineEq, List.all_eq_true] at h
  refine List.map_congr_left fun f hf => ?_
  have hf' := h f (hsub hf)
  cases f
  · exact congrArg LHVal.sp (hsp hf')
  · exact congrArg LHVal.charge (of_decide_eq_true hf')
  · exact congrArg LHVal.tr (of_decide_eq_true hf')

theorem lfNe_eq_not (hS : ∀ x y, pyNe c x y = !pyEq c x y) (f : LField) (a b : Line τ) :
    lfNe c f a b = !lfEq c f a b := by
  cases f
  · exact hS _ _
  · rfl
  · rfl

theorem lineNe_eq_not (hS : ∀ x y, pyNe c x y = !pyEq c x y) (hL : c.lineNe ⊆ c.lineEq ∧ c.lineEq ⊆ c.lineNe)
    (a b : Line τ) : lineNe c a b = !lineEq c a b := by
  simp only [lineNe, lineEq, lfNe_eq_not hS]
  rw [any_congr_mem hL, List.not_all_eq_any_not]

end line

theorem lineHash_element {τ : Type} {c : CmpCfg} (hf : LField.element ∈ c.lineHash) {a b : Line τ}
    (h : lineHash c a = lineHash c b) : spHash c a.element = spHash c b.element :=
  LHVal.sp.inj (List.map_inj_left.mp h _ hf)

/-! ### equality is value-based: `==` holds exactly when all fields coincide (every constructible object), provided
every field is compared -/

section allFields
variable {c : CmpCfg} (hE : ∀ f : EField, f ∈ c.elEq)
include hE

theorem elEq_iff_eq (a b : El) : elEq c a b = true ↔ a = b := by
  constructor
  · intro he
    simp only [elEq, List.all_eq_true] at he
    have hw := he .atomicWeight (hE _)
    rw [efEq, Bool.and_eq_true] at hw
    refine El.beq_iff.mp ?_
    simp only [El.beq, Bool.and_eq_true]
    exact ⟨⟨⟨⟨he .name (hE _), he .symbol (hE _)⟩, he .atomicNumber (hE _)⟩, hw.1⟩, hw.2⟩
  · rintro rfl
    exact elEq_refl c a

/-- mixed comparison: decided on the inherited `Element` part alone -/
theorem pyEq_mixed_iff (hs : c.strictKind = false) (e : El) (i : Iso) :
    (pyEq c (.el e) (.iso i) = true ↔ e = i.base) ∧ (pyEq c (.iso i) (.el e) = true ↔ e = i.base) := by
  simp only [pyEq, hs, Bool.false_eq_true, if_false]
  exact ⟨elEq_iff_eq hE e i.base, elEq_iff_eq hE e i.base⟩

variable (hI : ∀ f : IField, f ∈ c.isoEq)
include hI

theorem isoEq_iff_eq (a b : Iso) : isoEq c a b = true ↔ a = b := by
  constructor
  · intro he
    simp only [isoEq, List.all_eq_true] at he
    have hb : elEq c a.base b.base = true := List.all_eq_true.mpr fun f _ => he (.inh f) (hI _)
    cases a; cases b
    rw [Iso.mk.injEq]
    exact ⟨(elEq_iff_eq hE _ _).mp hb, nbeq.mp (he .massNumber (hI _)), (elEq_iff_eq hE _ _).mp (he .element (hI _))⟩
  · rintro rfl
    exact isoEq_refl c a

theorem pyEq_sameKind_iff {a b : Sp} (hk : SameKind a b) : pyEq c a b = true ↔ a = b := by
  cases a <;> cases b <;> simp only [SameKind] at hk
  · simp only [pyEq, Sp.el.injEq]; exact elEq_iff_eq hE _ _
  · simp only [pyEq, Sp.iso.injEq]; exact isoEq_iff_eq hE hI _ _

end allFields

theorem pyEq_mixed_strict {c : CmpCfg} (hs : c.strictKind = true) (e : El) (i : Iso) :
    pyEq c (.el e) (.iso i) = false ∧ pyEq c (.iso i) (.el e) = false := by
  simp [pyEq, hs]

/-- the hash tuples of an `Element` and an `Isotope` have different lengths, hence differ -/
theorem spHash_mixed_ne {c : CmpCfg} (hlen : c.elHash.length ≠ c.isoHash.length) (e : El) (i : Iso) :
    spHash c (.el e) ≠ spHash c (.iso i) := by
  intro h
  have := congrArg List.length h
  simp only [spHash, elHash, isoHash, List.length_map] at this
  exact hlen this

theorem map_of_idxOk {F : Nat → Option Nat} :
    ∀ {l : List Nat} {p : Nat}, idxOk F p l = true → l.map F = (List.range' p l.length).map some
  | [], _, _ => rfl
  | k :: ks, p, h => by
    rw [idxOk, Bool.and_eq_true] at h
    cases hF : F k with
    | none => simp [hF] at h
    | some v =>
      simp only [hF, nbeq] at h
      rw [List.map_cons, hF, h.1, map_of_idxOk h.2]
      rfl

theorem nodup_of_idxOk {F : Nat → Option Nat} {l : List Nat} {p : Nat} (h : idxOk F p l = true) : l.Nodup := by
  refine List.Nodup.of_map F ?_
  rw [map_of_idxOk h]
  exact (List.nodup_range' ..).map (Option.some_injective _)

theorem subseqB_sound {α : Type} {eq : α → α → Bool} (heq : ∀ {a b}, eq a b = true → a = b) :
    ∀ {a b : List α}, subseqB eq a b = true → a ⊆ b
  | [], _, _ => List.nil_subset _
  | _ :: _, [], h => by simp [subseqB] at h
  | x :: xs, y :: ys, h => by
    rw [subseqB] at h
    split at h
    · next hxy =>
      rw [heq hxy]
      exact List.cons_subset_cons y (subseqB_sound heq h)
    · exact List.subset_cons_of_subset y (subseqB_sound heq h)

/-- runs of equal neighbours shrink to their last entry, so that a check over a list with long runs (the isotopes'
elements, in `dir()` order) visits each run once -/
def dropRepeats {α : Type} (eq : α → α → Bool) : List α → List α
  | a :: b :: t => if eq a b then dropRepeats eq (b :: t) else a :: dropRepeats eq (b :: t)
  | l => l

theorem subset_dropRepeats {α : Type} {eq : α → α → Bool} (heq : ∀ {a b}, eq a b = true → a = b) :
    ∀ l : List α, l ⊆ dropRepeats eq l
  | [] | [_] => List.Subset.refl _
  | a :: b :: t => by
    have ih := subset_dropRepeats heq (b :: t)
    rw [dropRepeats]
    split
    · next hab => exact List.cons_subset.mpr ⟨ih (heq hab ▸ List.mem_cons_self), ih⟩
    · exact List.cons_subset_cons a ih

theorem isotopeNamedAfter_iff {z elName elSym a name sym : Nat} :
    Periodic.isotopeNamedAfter z elName elSym a name sym = true ↔
      (lower name = lower (cat elName (strNat a)) ∧ lower sym = lower (cat elSym (strNat a))) ∨
      (z = 1 ∧ ∃ r ∈ Periodic.hydrogenIsotopesCoded, r.1 = a ∧ r.2.1 = sym ∧ r.2.2 = lower name) := by
  simp only [Periodic.isotopeNamedAfter, Bool.or_eq_true, Bool.and_eq_true, List.any_eq_true, nbeq, and_assoc]

/-! ### `lower` distributes over concatenation (byte-wise map) -/

theorem lowerByte_eq (b : Nat) : lowerByte b = if 65 ≤ b ∧ b ≤ 90 then b + 32 else b := by
  simp only [lowerByte, Bool.and_eq_true, Nat.ble_eq]

theorem lowerAux_zero (f : Nat) : lowerAux f 0 = 0 := by
  induction f with
  | zero => rfl
  | succ f ih => simp [lowerAux, ih, lowerByte_eq]

/-- `m = 256` splits off the last byte, `m = 256 ^ bytes b` a whole suffix `b` (`cat_div`, `cat_mod`) -/
theorem snoc_div {s m d : Nat} (hd : d < m) : (s * m + d) / m = s := by
  rw [Nat.add_comm, Nat.add_mul_div_right _ _ (Nat.zero_lt_of_lt hd), Nat.div_eq_of_lt hd, Nat.zero_add]

theorem snoc_mod {s m d : Nat} (hd : d < m) : (s * m + d) % m = d := by
  rw [Nat.mul_add_mod_self_right, Nat.mod_eq_of_lt hd]

theorem lowerAux_snoc (g s : Nat) {d : Nat} (hd : d < 256) :
    lowerAux (g + 1) (s * 256 + d) = lowerAux g s * 256 + lowerByte d := by
  rw [lowerAux, snoc_div hd, snoc_mod hd]

theorem lowerAux_split (m f a b : Nat) (hb : b < 256 ^ m) :
    lowerAux (m + f) (a * 256 ^ m + b) = lowerAux f a * 256 ^ m + lowerAux m b := by
  induction m generalizing b with
  | zero =>
    have : b = 0 := by simpa using hb
    subst this
    simp [lowerAux]
  | succ m ih =>
    -- split off the last byte of `b`
    have hd : b / 256 < 256 ^ m := by rw [pow_succ] at hb; omega
    have e : a * 256 ^ (m + 1) + b = (a * 256 ^ m + b / 256) * 256 + b % 256 := by
      rw [pow_succ, ← Nat.mul_assoc, Nat.add_mul, Nat.add_assoc, Nat.div_add_mod']
    rw [Nat.add_right_comm m 1 f, e, lowerAux_snoc _ _ (Nat.mod_lt _ (by norm_num)), ih _ hd, lowerAux]
    ring

theorem lowerAux_fuel (f g n : Nat) (h : n < 256 ^ f) : lowerAux (f + g) n = lowerAux f n := by
  simpa [lowerAux_zero] using lowerAux_split f g 0 n h

theorem lowerAux_fuel_irrel {f1 f2 n : Nat} (h1 : n < 256 ^ f1) (h2 : n < 256 ^ f2) : lowerAux f1 n = lowerAux f2 n := by
  rw [← lowerAux_fuel f1 f2 n h1, Nat.add_comm, lowerAux_fuel f2 f1 n h2]

theorem lt_pow_bytes (n : Nat) : n < 256 ^ bytes n := by
  unfold bytes
  by_cases h : n = 0
  · subst h; simp
  · simp only [nbeq_false h]
    calc n < 2 ^ (n.log2 + 1) := Nat.lt_log2_self
      _ ≤ 2 ^ (8 * (n.log2 / 8 + 1)) := Nat.pow_le_pow_right (by norm_num) (by omega)
      _ = 256 ^ (n.log2 / 8 + 1) := by rw [pow_mul]; norm_num

theorem cat_div (a b : Nat) : cat a b / 256 ^ bytes b = a := snoc_div (lt_pow_bytes b)

theorem cat_mod (a b : Nat) : cat a b % 256 ^ bytes b = b := snoc_mod (lt_pow_bytes b)

/-- `(a + b).lower() = a.lower() + b` for a suffix `b` that lower-casing leaves alone (e.g. decimal digits) -/
theorem lower_cat_of (a b : Nat) (hb : lower b = b) : lower (cat a b) = cat (lower a) b := by
  -- `a + b` fits into `bytes b + bytes a` bytes: without its last `bytes b` bytes it is `a`
  have hab : cat a b < 256 ^ (bytes b + bytes a) := by
    rw [pow_add, Nat.mul_comm, ← Nat.div_lt_iff_lt_mul (Nat.pow_pos (by norm_num)), cat_div]
    exact lt_pow_bytes a
  unfold lower at hb ⊢
  rw [lowerAux_fuel_irrel (lt_pow_bytes _) hab]
  unfold cat
  rw [lowerAux_split _ _ _ _ (lt_pow_bytes b), hb]

theorem abs_div_sub_le {w d a : ℚ} (hd : 0 < d) (h1 : 10 * w ≤ 10 * (a * d) + d) (h2 : 10 * (a * d) ≤ 10 * w + d) :
    |w / d - a| ≤ 1 / 10 := by
  rw [abs_le, le_sub_iff_add_le, sub_le_iff_le_add, le_div_iff₀ hd, div_le_iff₀ hd]
  constructor <;> linarith

/-- the integer test `weightNear` is `|w − A| ≤ 1/10` for the rational `w = wNum / wDen` -/
theorem weightNear_sound {wNum wDen a : Nat} (hd : 0 < wDen) (h : weightNear wNum wDen a = true) :
    |(wNum : ℚ) / wDen - a| ≤ 1 / 10 := by
  simp only [weightNear, Bool.and_eq_true, Nat.ble_eq] at h
  have h1 : 10 * wNum ≤ 10 * (a * wDen) + wDen := by omega
  have h2 : 10 * (a * wDen) ≤ 10 * wNum + wDen := by omega
  exact abs_div_sub_le (Nat.cast_pos.mpr hd) (by exact_mod_cast h1) (by exact_mod_cast h2)

/-! ### the string code is injective on NUL-free byte strings -/

/-- big-endian value of a byte list (what `enc` computes on the UTF-8 bytes) -/
def encBytes (bs : List Nat) : Nat := bs.foldl (fun a b => a * 256 + b) 0

theorem enc_eq_encBytes (s : String) : enc s = encBytes (s.toUTF8.data.toList.map UInt8.toNat) := by
  simp [enc, encBytes, List.foldl_map]

theorem encBytes_append_singleton (bs : List Nat) (b : Nat) : encBytes (bs ++ [b]) = encBytes bs * 256 + b := by
  simp [encBytes, List.foldl_append]

def bytesOf (n : Nat) : List Nat := if n = 0 then [] else bytesOf (n / 256) ++ [n % 256]
decreasing_by exact Nat.div_lt_self (Nat.pos_of_ne_zero ‹_›) (by decide)

/-- `0 < b`: leading NUL bytes do not show in the code -/
theorem bytesOf_encBytes (xs : List Nat) : (∀ b ∈ xs, 0 < b ∧ b < 256) → bytesOf (encBytes xs) = xs := by
  induction xs using List.reverseRecOn with
  | nil => exact fun _ => by rw [bytesOf, if_pos (show encBytes [] = 0 from rfl)]
  | append_singleton xs x ih =>
    intro hx
    have hx' := hx x (by simp)
    rw [encBytes_append_singleton, bytesOf, if_neg (by omega), snoc_div hx'.2, snoc_mod hx'.2,
      ih fun b hb => hx b (by simp [hb])]

theorem encBytes_injective (xs ys : List Nat) (hx : ∀ b ∈ xs, 0 < b ∧ b < 256) (hy : ∀ b ∈ ys, 0 < b ∧ b < 256)
    (h : encBytes xs = encBytes ys) : xs = ys := by
  rw [← bytesOf_encBytes xs hx, h, bytesOf_encBytes ys hy]

end Cherab.Registry
