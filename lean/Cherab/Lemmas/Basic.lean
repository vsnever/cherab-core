import Mathlib.Tactic.Ring
import Mathlib.Tactic.NormNum.OfScientific
import Mathlib.Algebra.Order.Field.Basic
import Mathlib.Algebra.BigOperators.Group.List.Basic
import Mathlib.Algebra.Order.BigOperators.Group.List

/-!
What several columns need and none owns: the decimal literals of the Python / Cython sources read in an ordered field
(the models keep `0.5`, `2.0`, … as `OfScientific` literals, because that is what the source says), and the loop
`acc = a; for j in l: acc += f(j)` as a sum.
-/
namespace Cherab

theorem foldl_add_eq {M ι : Type} [AddMonoid M] (f : ι → M) (l : List ι) (a : M) :
    l.foldl (fun acc j => acc + f j) a = a + (l.map f).sum := by
  induction l generalizing a with
  | nil => simp
  | cons x xs ih => simp [ih, add_assoc]

variable {α : Type} [Field α] [LinearOrder α] [IsStrictOrderedRing α]

theorem sum_map_nonneg {ι : Type} {f : ι → α} {l : List ι} (h : ∀ j ∈ l, 0 ≤ f j) : 0 ≤ (l.map f).sum :=
  List.sum_nonneg (List.forall_mem_map.mpr h)

theorem lit00 : (0.0 : α) = 0 := by norm_num
theorem lit025 : (0.25 : α) = 1 / 4 := by norm_num
theorem lit05 : (0.5 : α) = 1 / 2 := by norm_num
theorem lit05_nonneg : (0 : α) ≤ 0.5 := lit05 (α := α) ▸ (half_pos one_pos).le
theorem lit10 : (1.0 : α) = 1 := by norm_num
theorem lit2 : (2.0 : α) = 2 := by norm_num
theorem lit3 : (3.0 : α) = 3 := by norm_num
theorem lit4 : (4.0 : α) = 4 := by norm_num
theorem lit6 : (6.0 : α) = 6 := by norm_num
theorem lit32 : (32.0 : α) = 32 := by norm_num

end Cherab
