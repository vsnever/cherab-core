/-
C06 helper lemmas.  The loops of the repository model, seen through the reader's view `(path, inner key) ↦ value`, are
lists of point effects (`loopKey_spec`, `write_fold`, `loopWhole_spec`); the rendering of paths and inner keys is injective
on well-kinded keys (`KArg.text`, `path_inj`, `loc_inj`), so a point effect is a point update of the key → value map
(`absView_point`); calls run in sequence, the first exception ending the call (`Res.bind`), and their specifications
compose the same way (`thenPuts`, `RefinesAt.bind`).
-/
import Cherab.Model.Repository
import Std.Data.String.ToInt

namespace Cherab.Repository

theorem alookup_ainsert {κ ν : Type} [DecidableEq κ] (k k' : κ) (v : ν) (l : List (κ × ν)) :
    alookup k' (ainsert k v l) = if k' = k then some v else alookup k' l := by
  fun_induction ainsert k v l with
  | case1 => simp only [alookup, eq_comm]
  | case2 b t =>
    simp only [alookup, eq_comm]
    split <;> rfl
  | case3 a b t h ih =>
    simp only [alookup, ih]
    by_cases h2 : a = k'
    · subst h2; simp only [if_true, if_neg h]
    · simp only [if_neg h2]

theorem read_write (fs : FS) (p p' : Path) (f : File) :
    (fs.write p f).read p' = if p' = p then some f else fs.read p' := by
  unfold FS.read FS.write; exact alookup_ainsert p p' f fs

theorem at_write (fs : FS) (p p' : Path) (f : File) (k : IKey) :
    (fs.write p f).at p' k = if p' = p then alookup k f else fs.at p' k := by
  unfold FS.at; rw [read_write]; split <;> simp

/-- the reader's view of a file system: value at (path, inner key) -/
abbrev View := Path → IKey → Option Val

inductive Eff
  | put (p : Path) (k : IKey) (v : Val)
  | replace (p : Path) (k : IKey) (v : Val)

def Eff.apply : Eff → View → View
  | .put p k v, σ => fun p' k' => if p' = p then (if k' = k then some v else σ p' k') else σ p' k'
  | .replace p k v, _σ => fun p' k' => if p' = p then (if k' = k then some v else none) else _σ p' k'

def Eff.path : Eff → Path
  | .put p _ _ => p
  | .replace p _ _ => p

def applyEffs : List Eff → View → View
  | [], σ => σ
  | e :: es, σ => applyEffs es (e.apply σ)

theorem applyEffs_append (a b : List Eff) (σ : View) : applyEffs (a ++ b) σ = applyEffs b (applyEffs a σ) := by
  induction a generalizing σ with
  | nil => rfl
  | cons e es ih => simp [applyEffs, ih]

theorem applyEffs_other (es : List Eff) (σ : View) (p : Path) (k : IKey) (h : ∀ e ∈ es, e.path ≠ p) :
    applyEffs es σ p k = σ p k := by
  induction es generalizing σ with
  | nil => rfl
  | cons e es ih =>
    have hne : p ≠ e.path := fun e' => h e (List.mem_cons_self ..) e'.symm
    rw [applyEffs, ih _ fun e' he' => h e' (List.mem_cons_of_mem _ he')]
    cases e <;> exact if_neg hne

/-- check + validate one (inner key, rate) item: the normalised inner key components and the stored value -/
def itemKV (u : UpdFn) (outer : List Arg) (it : List Arg × Rate) : Except Err (List KArg × Val) :=
  match u.innerCheck outer it.1 with
  | some e => .error e
  | none =>
    match u.validate it.2 with
    | .error e => .error e
    | .ok v => .ok (it.1.map Arg.norm, v)

theorem stepInner_eq (u : UpdFn) (outer : List Arg) (c : File) (it : List Arg × Rate) :
    stepInner u outer c it = match itemKV u outer it with
      | .error e => .error e
      | .ok kv => .ok (ainsert (renderIKey kv.1) kv.2 c) := by
  unfold stepInner itemKV ikeyOf
  cases u.innerCheck outer it.1 <;> simp
  cases u.validate it.2 <;> simp

/-- the (inner key, value) pairs accepted before the first rejected item, and the rejection -/
def prefixKV (u : UpdFn) (outer : List Arg) : List (List Arg × Rate) → List (List KArg × Val) × Option Err
  | [] => ([], none)
  | it :: rest =>
    match itemKV u outer it with
    | .error e => ([], some e)
    | .ok kv => (kv :: (prefixKV u outer rest).1, (prefixKV u outer rest).2)

def puts (path : Path) (kvs : List (List KArg × Val)) : List Eff := kvs.map fun kv => .put path (renderIKey kv.1) kv.2
def replaces (path : Path) (kvs : List (List KArg × Val)) : List Eff :=
  kvs.map fun kv => .replace path (renderIKey kv.1) kv.2

theorem write_replace (fs : FS) (path : Path) (ik : IKey) (v : Val) :
    (fs.write path (ainsert ik v [])).at = (Eff.replace path ik v).apply fs.at := by
  funext p' k'
  rw [at_write, alookup_ainsert]
  rfl

theorem fold_tracks (path : Path) (kvs : List (List KArg × Val)) (c : File) (σ : View)
    (hI : ∀ k, alookup k c = σ path k) :
    ∀ k, alookup k (kvs.foldl (fun c kv => ainsert (renderIKey kv.1) kv.2 c) c) = applyEffs (puts path kvs) σ path k := by
  induction kvs generalizing c σ with
  | nil => exact hI
  | cons kv t ih => exact ih _ _ fun k => by rw [alookup_ainsert, hI]; exact (if_pos rfl).symm

theorem write_fold (fs : FS) (path : Path) (kvs : List (List KArg × Val)) (c : File)
    (hI : ∀ k, alookup k c = fs.at path k) :
    (fs.write path (kvs.foldl (fun c kv => ainsert (renderIKey kv.1) kv.2 c) c)).at = applyEffs (puts path kvs) fs.at := by
  funext p' k'
  rw [at_write]
  split
  · next hp => rw [hp]; exact fold_tracks path kvs c fs.at hI k'
  · next hp =>
    refine (applyEffs_other _ _ _ _ fun e he => ?_).symm
    obtain ⟨kv, -, rfl⟩ := List.mem_map.mp he
    exact fun h => hp h.symm

theorem loopKey_spec (u : UpdFn) (outer : List Arg) (path : Path) (items : List (List Arg × Rate)) (c : File)
    (fs : FS) (hI : ∀ k, alookup k c = fs.at path k) :
    (loopKey u outer path c items fs).2 = (prefixKV u outer items).2 ∧
    (loopKey u outer path c items fs).1.at = applyEffs (puts path (prefixKV u outer items).1) fs.at := by
  induction items generalizing c fs with
  | nil => exact ⟨rfl, rfl⟩
  | cons it rest ih =>
    simp only [loopKey, prefixKV, stepInner_eq]
    cases itemKV u outer it with
    | error e => exact ⟨rfl, rfl⟩
    | ok kv =>
      obtain ⟨h1, h2⟩ := ih _ (fs.write path (ainsert (renderIKey kv.1) kv.2 c)) fun k => by rw [at_write, if_pos rfl]
      exact ⟨h1, h2.trans (congrArg (applyEffs _) (write_fold fs path [kv] c hI))⟩

theorem foldFile_spec (u : UpdFn) (outer : List Arg) (items : List (List Arg × Rate)) (c : File) :
    foldFile u outer c items =
      match (prefixKV u outer items).2 with
      | some e => .error e
      | none => .ok ((prefixKV u outer items).1.foldl (fun c kv => ainsert (renderIKey kv.1) kv.2 c) c) := by
  induction items generalizing c with
  | nil => rfl
  | cons it rest ih =>
    simp only [foldFile, prefixKV, stepInner_eq]
    cases hkv : itemKV u outer it with
    | error e => simp
    | ok kv => simp only [ih, List.foldl_cons]

theorem loopWhole_spec (u : UpdFn) (outer : List Arg) (path : Path) (items : List (List Arg × Rate)) (fs : FS) :
    (loopWhole u outer path items fs).2 = (prefixKV u outer items).2 ∧
    (loopWhole u outer path items fs).1.at = applyEffs (replaces path (prefixKV u outer items).1) fs.at := by
  induction items generalizing fs with
  | nil => exact ⟨rfl, rfl⟩
  | cons it rest ih =>
    simp only [loopWhole, prefixKV, stepInner_eq]
    cases itemKV u outer it with
    | error e => exact ⟨rfl, rfl⟩
    | ok kv =>
      obtain ⟨h1, h2⟩ := ih (fs.write path (ainsert (renderIKey kv.1) kv.2 []))
      exact ⟨h1, by rw [h2, write_replace]; rfl⟩

theorem getD_view (fs : FS) (path : Path) : ∀ k, alookup k ((fs.read path).getD []) = fs.at path k := by
  intro k
  unfold FS.at
  cases fs.read path <;> simp [alookup]

/-- the string a key component is rendered to — the same in a path component and in an inner key -/
def KArg.text : KArg → String
  | .sym s => s
  | .num n => Int.repr n
  | .str s => s
  | .tr k => k
  | .bad => "?"

theorem renderIKey_eq (as : List KArg) : renderIKey as = as.map KArg.text := by
  induction as with
  | nil => rfl
  | cons a as ih => cases a <;> simp only [renderIKey, List.map_cons, KArg.text, ih]

theorem renderSlot_eq_some {s : Slot} {a : KArg} {x : String} (h : renderSlot s a = some x) : x = a.text := by
  cases s <;> cases a <;> cases h <;> rfl

theorem renderSlots_cons {s : Slot} {ss : List Slot} {a : KArg} {as : List KArg} {cs : List String}
    (h : renderSlots (s :: ss) (a :: as) = some cs) :
    ∃ x r, renderSlot s a = some x ∧ renderSlots ss as = some r ∧ cs = x :: r := by
  simp only [renderSlots] at h
  split at h
  · next x r h1 h2 => exact ⟨x, r, h1, h2, (Option.some.inj h).symm⟩
  · cases h

theorem renderSlots_eq_some {ss : List Slot} {as : List KArg} {cs : List String}
    (h : renderSlots ss as = some cs) : cs = as.map KArg.text ∧ as.length = ss.length := by
  fun_induction renderSlots ss as generalizing cs with
  | case1 => cases h; exact ⟨rfl, rfl⟩
  | case2 s ss a as x r hr hx ih =>
    cases h
    obtain ⟨rfl, e⟩ := ih hr
    rw [renderSlot_eq_some hx, List.length_cons, List.length_cons, e]
    exact ⟨rfl, rfl⟩
  | case3 | case4 => cases h

/-- within one kind the rendering loses nothing (`str(int)` is injective) -/
theorem text_inj {κ : Kind} {a b : KArg} (ha : a.hasKind κ = true) (hb : b.hasKind κ = true)
    (h : a.text = b.text) : a = b := by
  cases κ <;> cases a <;> cases ha <;> cases b <;> cases hb
  · exact congrArg KArg.sym h
  · exact congrArg KArg.num (Int.repr_inj.mp h)
  · exact congrArg KArg.str h
  · exact congrArg KArg.tr h

theorem kinded_nil_left {as : List KArg} (h : kinded as [] = true) : as = [] := by
  cases as with
  | nil => rfl
  | cons a t => cases h

theorem kinded_cons {as : List KArg} {k : Kind} {ks : List Kind} (h : kinded as (k :: ks) = true) :
    ∃ a t, as = a :: t ∧ a.hasKind k = true ∧ kinded t ks = true := by
  cases as with
  | nil => cases h
  | cons a t => exact ⟨a, t, rfl, by simpa only [kinded, Bool.and_eq_true] using h⟩

theorem texts_inj {ks : List Kind} {as bs : List KArg} (ha : kinded as ks = true) (hb : kinded bs ks = true)
    (h : as.map KArg.text = bs.map KArg.text) : as = bs := by
  fun_induction kinded as ks generalizing bs with
  | case1 => rw [kinded_nil_left hb]
  | case2 a as k ks ih =>
    obtain ⟨b, bs, rfl, hb1, hb2⟩ := kinded_cons hb
    simp only [Bool.and_eq_true] at ha
    simp only [List.map_cons, List.cons.injEq] at h
    rw [text_inj ha.1 hb1 h.1, ih ha.2 hb2 h.2]
  | case3 => cases ha

theorem renderIKey_inj (ks : List Kind) (as bs : List KArg) (ha : kinded as ks = true) (hb : kinded bs ks = true)
    (h : renderIKey as = renderIKey bs) : as = bs :=
  texts_inj ha hb (by rw [← renderIKey_eq, ← renderIKey_eq, h])

theorem addExt_length (ext : String) : ∀ l : List String, (addExt ext l).length = l.length
  | [] | [_] => rfl
  | _ :: y :: t => congrArg (· + 1) (addExt_length ext (y :: t))

theorem addExt_inj (ext : String) (a b : List String) (h : addExt ext a = addExt ext b) : a = b := by
  have hl : a.length = b.length := by rw [← addExt_length ext a, h, addExt_length]
  induction a generalizing b with
  | nil => exact (List.eq_nil_of_length_eq_zero hl.symm).symm
  | cons x t ih =>
    obtain _ | ⟨y, s⟩ := b
    · cases hl
    obtain _ | ⟨x', t⟩ := t <;> obtain _ | ⟨z, s⟩ := s
    · rw [(String.append_left_inj ext).mp (List.cons.inj h).1]
    · cases Nat.succ.inj hl
    · cases Nat.succ.inj hl
    · rw [(List.cons.inj h).1, ih _ (List.cons.inj h).2 (Nat.succ.inj hl)]

theorem litsClash_ne (a b x y : List String) (h : litsClash a b = true) : a ++ x ≠ b ++ y := by
  fun_induction litsClash a b with
  | case1 p a q b ih =>
    simp only [Bool.or_eq_true, bne_iff_ne] at h
    intro e
    rcases h with h | h
    · exact h (List.cons.inj e).1
    · exact ih h (List.cons.inj e).2
  | case2 => cases h

theorem inst_eq_some {t : Template} {as : List KArg} {p : Path} (h : t.inst as = some p) :
    p = addExt t.ext (t.lits ++ as.map KArg.text) ∧ as.length = t.slots.length := by
  obtain ⟨cs, hc, rfl⟩ := Option.map_eq_some_iff.mp h
  obtain ⟨rfl, hl⟩ := renderSlots_eq_some hc
  exact ⟨rfl, hl⟩

theorem inst_inj (t : Template) (ks : List Kind) (as bs : List KArg) (p : Path)
    (ha : kinded as ks = true) (hb : kinded bs ks = true) (h1 : t.inst as = some p) (h2 : t.inst bs = some p) :
    as = bs :=
  texts_inj ha hb (List.append_cancel_left
    (addExt_inj _ _ _ ((inst_eq_some h1).1.symm.trans (inst_eq_some h2).1)))

theorem inst_disjoint (s t : Template) (hd : s.disjoint t = true) (hx : s.ext = t.ext) (as bs : List KArg) (p : Path)
    (h1 : s.inst as = some p) (h2 : t.inst bs = some p) : False := by
  obtain ⟨e1, l1⟩ := inst_eq_some h1
  obtain ⟨e2, l2⟩ := inst_eq_some h2
  rw [hx] at e1
  have he := addExt_inj _ _ _ (e1.symm.trans e2)
  simp only [Template.disjoint, Bool.or_eq_true, bne_iff_ne] at hd
  rcases hd with hd | hd
  · have hl := congrArg List.length he
    simp only [List.length_append, List.length_map, l1, l2] at hl
    exact hd hl
  · exact litsClash_ne _ _ _ _ hd he

/-- (rate family, file-selecting components, components inside the file): lower-cased symbols, integer charges /
metastables, PEC class, encoded transition -/
structure Key where
  fam : UpdFn
  args : List KArg
  inner : List KArg
  deriving DecidableEq

def Key.ok (k : Key) : Bool := kinded k.args k.fam.sig && kinded k.inner k.fam.innerSig

def Key.loc (T : Tables) (R : Path) (k : Key) : Option (Path × IKey) :=
  ((T.tmplOfUpd k.fam).bind (·.inst k.args)).map fun rel => (R ++ rel, renderIKey k.inner)

theorem loc_snd {T : Tables} {R : Path} {k : Key} {l : Path × IKey} (h : k.loc T R = some l) :
    l.2 = renderIKey k.inner := by
  obtain ⟨_, _, rfl⟩ := Option.map_eq_some_iff.mp h
  rfl

/-- the key → value map a view represents -/
def absView (T : Tables) (R : Path) (σ : View) (k : Key) : Option Val :=
  match k.loc T R with
  | some l => σ l.1 l.2
  | none => none

abbrev KV := Key → Option Val

def putKV (k : Key) (v : Val) (m : KV) : KV := fun k' => if k' = k then some v else m k'

def applyPuts : List (Key × Val) → KV → KV
  | [], m => m
  | kv :: t, m => applyPuts t (putKV kv.1 kv.2 m)

def keyed (u : UpdFn) (nargs : List KArg) (kvs : List (List KArg × Val)) : List (Key × Val) :=
  kvs.map fun kv => (⟨u, nargs, kv.1⟩, kv.2)

theorem applyPuts_congr (l : List (Key × Val)) (m m' : KV) (k : Key) (h : m k = m' k) :
    applyPuts l m k = applyPuts l m' k := by
  induction l generalizing m m' with
  | nil => exact h
  | cons kv t ih => exact ih _ _ (by simp [putKV, h])

theorem applyPuts_append (a b : List (Key × Val)) (m : KV) : applyPuts (a ++ b) m = applyPuts b (applyPuts a m) := by
  induction a generalizing m with
  | nil => rfl
  | cons e es ih => simp [applyPuts, ih]

theorem absView_point {T : Tables} {R : Path} {κ k : Key} {P : Path} {I : IKey} {v : Val} {σ σ' : View}
    (hκ : κ.loc T R = some (P, I)) (h1 : σ' P I = some v)
    (h2 : ∀ l, k.loc T R = some l → k ≠ κ → σ' l.1 l.2 = σ l.1 l.2) :
    absView T R σ' k = putKV κ v (absView T R σ) k := by
  by_cases hkκ : k = κ
  · simp only [absView, putKV, hkκ, hκ, h1, if_true]
  · simp only [absView, putKV, if_neg hkκ]
    cases hl : k.loc T R with
    | none => rfl
    | some l => exact h2 l hl hkκ

theorem mem_allUpd (u : UpdFn) : u ∈ allUpd := by cases u <;> decide
theorem mem_allAdd (a : AddFn) : a ∈ allAdd := by cases a <;> decide
theorem mem_allGet (g : GetFn) : g ∈ allGet := by cases g <;> decide
theorem mem_allInstall (i : InstallFn) : i ∈ allInstall := by cases i <;> decide

theorem shapes_of (T : Tables) (h : T.shapesOk = true) (u : UpdFn) :
    ∃ t, T.tmplOfUpd u = some t ∧ t.slots = u.sig.map Kind.slot ∧ t.ext = ".json" := by
  have := List.all_eq_true.mp h u (mem_allUpd u)
  unfold tmplOk at this
  cases ht : T.tmplOfUpd u with
  | none => simp [ht] at this
  | some t =>
    simp only [ht, Bool.and_eq_true, beq_iff_eq] at this
    exact ⟨t, rfl, this.1, this.2⟩

theorem disjoint_of (T : Tables) (h : T.disjointOk = true) (u v : UpdFn) (huv : u ≠ v) (s t : Template)
    (hs : T.tmplOfUpd u = some s) (ht : T.tmplOfUpd v = some t) : s.disjoint t = true := by
  have := List.all_eq_true.mp (List.all_eq_true.mp h u (mem_allUpd u)) v (mem_allUpd v)
  simp only [hs, ht, Bool.or_eq_true, beq_iff_eq] at this
  rcases this with h | h
  · exact absurd h huv
  · exact h

theorem addMatches_of (T : Tables) (h : T.addMatches = true) (a : AddFn) :
    T.famOfAdd a = a.own ∧ T.tmplOfAdd a = T.tmplOfUpd a.own ∧ T.addFixed a = a.ownFixed := by
  have := List.all_eq_true.mp h a (mem_allAdd a)
  simpa [Bool.and_eq_true, beq_iff_eq, and_assoc] using this

theorem getMatches_of (T : Tables) (h : T.getMatches = true) (g : GetFn) :
    T.getReads g = T.tmplOfUpd g.own ∧ T.getFixed g = g.ownFixed := by
  have := List.all_eq_true.mp h g (mem_allGet g)
  simpa [Bool.and_eq_true, beq_iff_eq] using this

theorem rootPassed_of (T : Tables) (h : T.rootPassed = true) (i : InstallFn) : ∀ c ∈ T.installCalls i, c.2 = true := by
  simp only [Tables.rootPassed, Bool.and_eq_true] at h
  exact List.all_eq_true.mp (List.all_eq_true.mp h.1 i (mem_allInstall i))

theorem passes_of_rootPassed (T : Tables) (h : T.rootPassed = true) (a b : String) : T.passes a b = true := by
  simp only [Tables.rootPassed, Bool.and_eq_true] at h
  unfold Tables.passes
  cases hf : T.frontCalls.find? (fun c => c.1 == a && c.2.1 == b) with
  | none => rfl
  | some c => exact List.all_eq_true.mp h.2 c (List.mem_of_find?_eq_some hf)

/-- `paths_injective`: two well-kinded keys stored at the same file have the same family and file components -/
theorem path_inj (T : Tables) (hS : T.shapesOk = true) (hD : T.disjointOk = true) (R : Path)
    (k k' : Key) (hk : k.ok = true) (hk' : k'.ok = true) (p : Path) (i i' : IKey)
    (h : k.loc T R = some (p, i)) (h' : k'.loc T R = some (p, i')) : k.fam = k'.fam ∧ k.args = k'.args := by
  obtain ⟨t, ht, _, hte⟩ := shapes_of T hS k.fam
  obtain ⟨t', ht', _, hte'⟩ := shapes_of T hS k'.fam
  simp only [Key.ok, Bool.and_eq_true] at hk hk'
  simp only [Key.loc, ht, ht', Option.bind_some, Option.map_eq_some_iff, Prod.mk.injEq] at h h'
  obtain ⟨rel, hr, hp, _⟩ := h
  obtain ⟨rel', hr', hp', _⟩ := h'
  have hrel : rel = rel' := List.append_cancel_left (hp.trans hp'.symm)
  subst hrel
  by_cases hf : k.fam = k'.fam
  · refine ⟨hf, ?_⟩
    rw [← hf] at ht' hk'
    have : t = t' := Option.some.inj (ht.symm.trans ht')
    subst this
    exact inst_inj t _ _ _ _ hk.1 hk'.1 hr hr'
  · exact (inst_disjoint t t' (disjoint_of T hD _ _ hf t t' ht ht') (hte.trans hte'.symm) _ _ _ hr hr').elim

theorem loc_inj (T : Tables) (hS : T.shapesOk = true) (hD : T.disjointOk = true) (R : Path)
    (k k' : Key) (hk : k.ok = true) (hk' : k'.ok = true) (l : Path × IKey)
    (h : k.loc T R = some l) (h' : k'.loc T R = some l) : k = k' := by
  obtain ⟨f, a, n⟩ := k
  obtain ⟨f', a', n'⟩ := k'
  obtain ⟨rfl, rfl⟩ : f = f' ∧ a = a' := path_inj T hS hD R _ _ hk hk' l.1 l.2 l.2 h h'
  simp only [Key.ok, Bool.and_eq_true] at hk hk'
  rw [renderIKey_inj _ _ _ hk.2 hk'.2 ((loc_snd h).symm.trans (loc_snd h'))]

theorem put_refines (T : Tables) (hS : T.shapesOk = true) (hD : T.disjointOk = true) (R : Path)
    (κ : Key) (hκ : κ.ok = true) (P : Path) (I : IKey) (hκl : κ.loc T R = some (P, I)) (v : Val)
    (σ : View) (k : Key) (hk : k.ok = true) :
    absView T R ((Eff.put P I v).apply σ) k = putKV κ v (absView T R σ) k :=
  absView_point hκl ((if_pos rfl).trans (if_pos rfl)) fun l hl hne => by
    have : ¬ (l.1 = P ∧ l.2 = I) := fun ⟨e1, e2⟩ => hne (loc_inj T hS hD R k κ hk hκ l hl (by rw [hκl, ← e1, ← e2]))
    by_cases hp : l.1 = P
    · exact (if_pos hp).trans (if_neg fun hi => this ⟨hp, hi⟩)
    · exact if_neg hp

theorem whole_innerSig (u : UpdFn) (h : u.pattern = .whole) : u.innerSig = [] := by
  cases u <;> first | rfl | cases h

/-- beam stopping / population: the file *is* the rate — the inner key is empty, so family and file components determine a
well-kinded key -/
theorem key_eq_of_whole {k κ : Key} (hw : κ.fam.pattern = .whole) (hk : k.ok = true) (hκ : κ.ok = true)
    (h : k.fam = κ.fam ∧ k.args = κ.args) : k = κ := by
  obtain ⟨f, a, i⟩ := k
  obtain ⟨f', a', i'⟩ := κ
  obtain ⟨rfl, rfl⟩ : f = f' ∧ a = a' := h
  simp only [Key.ok, Bool.and_eq_true, whole_innerSig f hw] at hk hκ
  rw [kinded_nil_left hk.2, kinded_nil_left hκ.2]

/-- `κ` is the only well-kinded key of its file: replacing the file is the point update of `κ` -/
theorem replace_refines (T : Tables) (hS : T.shapesOk = true) (hD : T.disjointOk = true) (R : Path)
    (κ : Key) (hκ : κ.ok = true) (P : Path) (I : IKey) (hκl : κ.loc T R = some (P, I)) (v : Val)
    (σ : View) (k : Key) (hk : k.ok = true) (hw : κ.fam.pattern = .whole) :
    absView T R ((Eff.replace P I v).apply σ) k = putKV κ v (absView T R σ) k :=
  absView_point hκl ((if_pos rfl).trans (if_pos rfl)) fun l hl hne =>
    if_neg fun e => hne (key_eq_of_whole hw hk hκ (path_inj T hS hD R k κ hk hκ P l.2 I (by rw [hl, ← e]) hκl))

theorem puts_refine (T : Tables) (hS : T.shapesOk = true) (hD : T.disjointOk = true) (R : Path)
    (u : UpdFn) (t : Template) (ht : T.tmplOfUpd u = some t) (nargs : List KArg) (rel : Path)
    (hinst : t.inst nargs = some rel) (hka : kinded nargs u.sig = true) (k : Key) (hk : k.ok = true)
    (kvs : List (List KArg × Val)) (hall : ∀ kv ∈ kvs, kinded kv.1 u.innerSig = true) (σ : View) :
    absView T R (applyEffs (puts (R ++ rel) kvs) σ) k = applyPuts (keyed u nargs kvs) (absView T R σ) k ∧
    (u.pattern = .whole →
      absView T R (applyEffs (replaces (R ++ rel) kvs) σ) k = applyPuts (keyed u nargs kvs) (absView T R σ) k) := by
  induction kvs generalizing σ with
  | nil => exact ⟨rfl, fun _ => rfl⟩
  | cons kv rest ih =>
    have hrest := fun kv' h => hall kv' (List.mem_cons_of_mem _ h)
    have hκ : (Key.mk u nargs kv.1).ok = true := by
      simp only [Key.ok, hka, hall kv (List.mem_cons_self ..), Bool.and_self]
    have hκl : (Key.mk u nargs kv.1).loc T R = some (R ++ rel, renderIKey kv.1) := by
      simp only [Key.loc, ht, Option.bind_some, hinst, Option.map_some]
    exact ⟨((ih hrest _).1).trans (applyPuts_congr _ _ _ _ (put_refines T hS hD R _ hκ _ _ hκl kv.2 σ k hk)),
      fun hw => ((ih hrest _).2 hw).trans
        (applyPuts_congr _ _ _ _ (replace_refines T hS hD R _ hκ _ _ hκl kv.2 σ k hk hw))⟩

/-! ## typing of the key parts of an input (the rate data, species validity and charge ranges stay arbitrary) -/

/-- charges / metastables are integers, the PEC class is a string, transitions are pairs; a species position may hold
anything -/
def numOk : List KArg → List Kind → Bool
  | [], [] => true
  | a :: as, k :: ks =>
    (match k, a with
      | .sym, _ => true
      | .num, .num _ => true
      | .str, .str _ => true
      | .tr, .tr _ => true
      | _, _ => false) && numOk as ks
  | _, _ => false

def EntryTyped (u : UpdFn) (e : FileEntry) : Prop :=
  numOk (u.normArgs e.args) u.sig = true ∧ ∀ it ∈ e.inner, kinded (it.1.map Arg.norm) u.innerSig = true

def InputTyped (u : UpdFn) (inp : UpdInput) : Prop := ∀ e ∈ inp, EntryTyped u e

theorem kinded_of_render {ks : List Kind} {as : List KArg} {cs : List String} (h : numOk as ks = true)
    (hr : renderSlots (ks.map Kind.slot) as = some cs) : kinded as ks = true := by
  fun_induction numOk as ks generalizing cs with
  | case1 => rfl
  | case2 a as k ks ih =>
    obtain ⟨x, r, h1, h2, -⟩ := renderSlots_cons hr
    simp only [Bool.and_eq_true] at h
    simp only [kinded, Bool.and_eq_true]
    refine ⟨?_, ih h.2 h2⟩
    -- an integer, string or transition position holds what it should; a species position renders only a symbol
    cases k <;> cases a <;> cases h.1 <;> first | rfl | cases h1
  | case3 => cases h

theorem itemKV_ok {u : UpdFn} {outer : List Arg} {it : List Arg × Rate} {kv : List KArg × Val}
    (h : itemKV u outer it = .ok kv) : kv.1 = it.1.map Arg.norm ∧ u.validate it.2 = .ok kv.2 := by
  unfold itemKV at h
  split at h
  · cases h
  · split at h
    · cases h
    · next v hv => cases h; exact ⟨rfl, hv⟩

theorem prefixKV_sub (u : UpdFn) (outer : List Arg) (items : List (List Arg × Rate)) :
    ∀ kv ∈ (prefixKV u outer items).1, ∃ it ∈ items, kv.1 = it.1.map Arg.norm ∧ u.validate it.2 = .ok kv.2 := by
  fun_induction prefixKV u outer items with
  | case1 | case2 => nofun
  | case3 it rest kv0 hi ih =>
    intro kv h
    rcases List.mem_cons.mp h with rfl | h
    · exact ⟨it, List.mem_cons_self .., itemKV_ok hi⟩
    · obtain ⟨it', hm, h'⟩ := ih kv h
      exact ⟨it', List.mem_cons_of_mem _ hm, h'⟩

theorem prefixKV_kinded (u : UpdFn) (outer : List Arg) (ks : List Kind) (items : List (List Arg × Rate))
    (h : ∀ it ∈ items, kinded (it.1.map Arg.norm) ks = true) :
    ∀ kv ∈ (prefixKV u outer items).1, kinded kv.1 ks = true := by
  intro kv hkv
  obtain ⟨it, hit, e, -⟩ := prefixKV_sub u outer items kv hkv
  exact e ▸ h it hit

/-- the point updates one file-level entry performs on the key → value map, and the outcome -/
def entryPuts (T : Tables) (u : UpdFn) (e : FileEntry) : List (Key × Val) × Option Err :=
  match u.precheck e.args with
  | some err => ([], some err)
  | none =>
    match (T.tmplOfUpd u).bind (·.inst (u.normArgs e.args)) with
    | none => ([], some .attributeError)
    | some _ =>
      match u.pattern with
      | .perFile =>
        match (prefixKV u e.args e.inner).2 with
        | some err => ([], some err)
        | none => (keyed u (u.normArgs e.args) (prefixKV u e.args e.inner).1, none)
      | _ => (keyed u (u.normArgs e.args) (prefixKV u e.args e.inner).1, (prefixKV u e.args e.inner).2)

/-- the step of `seqEntries`, `installSeq`, `installFiles` and `populate`: each unfolds to it by `rfl` -/
def Res.bind (r : Res) (g : FS → Res) : Res :=
  match r with
  | (fs', none) => g fs'
  | r => r

theorem installFiles_cons (T : Tables) (i : InstallFn) (inps : List UpdInput) (rest : List (InstallFn × List UpdInput))
    (root : Option Path) (fs : FS) :
    installFiles T ((i, inps) :: rest) root fs
      = (install T i inps (if T.passes "install_files" i.pyName then root else none) fs).bind (installFiles T rest root) := rfl

theorem populate_eq (T : Tables) (cfg : List (InstallFn × List UpdInput)) (wl : UpdInput) (root : Option Path) (fs : FS) :
    populate T cfg wl root fs
      = (installFiles T cfg (if T.passes "populate" "install_files" then root else none) fs).bind
          (update T .wavelength wl (if T.passes "populate" "update_wavelengths" then root else none)) := rfl

theorem Res.bind_read {r : Res} {g : FS → Res} {fs : FS} {p : Path} (h1 : r.1.read p = fs.read p)
    (h2 : ∀ fs', (g fs').1.read p = fs'.read p) : (r.bind g).1.read p = fs.read p := by
  obtain ⟨fs', _ | e⟩ := r
  · exact (h2 fs').trans h1
  · exact h1

/-- the step of `seqPuts`, `insPuts`, `filesPuts` and `populatePuts`: each spells this `match` out and is `thenPuts` only
up to unfolding — that is how `mem_thenPuts`, `thenPuts_none` and `RefinesAt.bind` are applied to them -/
def thenPuts (p q : List (Key × Val) × Option Err) : List (Key × Val) × Option Err :=
  match p.2 with
  | none => (p.1 ++ q.1, q.2)
  | some e => (p.1, some e)

theorem mem_thenPuts {p q : List (Key × Val) × Option Err} {kv : Key × Val} (h : kv ∈ (thenPuts p q).1) :
    kv ∈ p.1 ∨ kv ∈ q.1 := by
  unfold thenPuts at h
  split at h
  · exact List.mem_append.mp h
  · exact Or.inl h

theorem thenPuts_none {p q : List (Key × Val) × Option Err} (h : (thenPuts p q).2 = none) :
    p.2 = none ∧ q.2 = none ∧ (thenPuts p q).1 = p.1 ++ q.1 := by
  cases hp : p.2 with
  | none => rw [thenPuts, hp] at h ⊢; exact ⟨rfl, h, rfl⟩
  | some e => rw [thenPuts, hp] at h; cases h

def seqPuts (f : FileEntry → List (Key × Val) × Option Err) : List FileEntry → List (Key × Val) × Option Err
  | [] => ([], none)
  | e :: es =>
    match (f e).2 with
    | none => ((f e).1 ++ (seqPuts f es).1, (seqPuts f es).2)
    | some err => ((f e).1, some err)

/-- the point updates `update_x(inp, root)` performs, and its outcome — computed from the input alone -/
def updPuts (T : Tables) (u : UpdFn) (inp : UpdInput) : List (Key × Val) × Option Err :=
  seqPuts (entryPuts T u) inp

def RefinesAt (T : Tables) (R : Path) (k : Key) (fs : FS) (r : Res) (p : List (Key × Val) × Option Err) : Prop :=
  r.2 = p.2 ∧ absView T R r.1.at k = applyPuts p.1 (absView T R fs.at) k

theorem RefinesAt.bind {T : Tables} {R : Path} {k : Key} {fs : FS} {r : Res} {g : FS → Res}
    {p q : List (Key × Val) × Option Err} (h1 : RefinesAt T R k fs r p) (h2 : ∀ fs', RefinesAt T R k fs' (g fs') q) :
    RefinesAt T R k fs (r.bind g) (thenPuts p q) := by
  obtain ⟨fs', o⟩ := r
  obtain ⟨ho, hv⟩ := h1
  simp only at ho hv
  unfold thenPuts
  rw [← ho]
  cases o with
  | none =>
    obtain ⟨h21, h22⟩ := h2 fs'
    exact ⟨h21, (h22.trans (applyPuts_congr _ _ _ _ hv)).trans (congrFun (applyPuts_append p.1 q.1 _) k).symm⟩
  | some e => exact ⟨rfl, hv⟩

/-- shape of an entry: everything but the rate dictionaries -/
def FileEntry.shape (e : FileEntry) : List Arg × List (List Arg) := (e.args, e.inner.map Prod.fst)

theorem pecReindex_shape (inp : UpdInput) : (pecReindex inp).map FileEntry.shape = inp.map FileEntry.shape := by
  unfold pecReindex
  rw [List.map_map]
  apply List.map_congr_left
  intro e _
  simp only [Function.comp]
  split
  · split
    · rfl
    · simp [FileEntry.shape, List.map_map, Function.comp_def]
  · rfl

/-- what `update_x` iterates over has the keys of what it was given (only rate dictionaries may be re-fetched) -/
theorem prep_shape (T : Tables) (u : UpdFn) (inp : UpdInput) :
    (u.prep T inp).map FileEntry.shape = inp.map FileEntry.shape := by
  fun_cases UpdFn.prep T u inp
  · exact pecReindex_shape inp
  all_goals rfl

/-- whether an entry is typed depends on its shape only -/
theorem entryTyped_iff (u : UpdFn) (e : FileEntry) : EntryTyped u e ↔
    numOk (u.normArgs e.shape.1) u.sig = true ∧ ∀ k ∈ e.shape.2, kinded (k.map Arg.norm) u.innerSig = true := by
  simp only [EntryTyped, FileEntry.shape, List.forall_mem_map]

theorem typed_of_shape (u : UpdFn) (a b : UpdInput) (h : a.map FileEntry.shape = b.map FileEntry.shape)
    (hb : InputTyped u b) : InputTyped u a := by
  intro e he
  obtain ⟨e', he', hs⟩ := List.mem_map.mp (h ▸ List.mem_map_of_mem he : e.shape ∈ b.map FileEntry.shape)
  rw [entryTyped_iff, ← hs, ← entryTyped_iff]
  exact hb e' he'

theorem prep_typed (T : Tables) (u : UpdFn) (inp : UpdInput) (h : InputTyped u inp) : InputTyped u (u.prep T inp) :=
  typed_of_shape u _ _ (prep_shape T u inp) h

/-- the loops are point effects on the view (`loopKey_spec`, `foldFile_spec`, `loopWhole_spec`), and those are point
updates of the keys of this file (`puts_refine`) -/
theorem updateEntry_refines (T : Tables) (hS : T.shapesOk = true) (hD : T.disjointOk = true) (R : Path)
    (u : UpdFn) (e : FileEntry) (hT : EntryTyped u e) (fs : FS) (k : Key)
    (hk : k.ok = true) :
    RefinesAt T R k fs (updateEntry u (T.tmplOfUpd u) R e fs) (entryPuts T u e) := by
  unfold updateEntry entryPuts
  cases u.precheck e.args with
  | some err => exact ⟨rfl, rfl⟩
  | none =>
    obtain ⟨t, ht, hts, _⟩ := shapes_of T hS u
    cases hinst : (T.tmplOfUpd u).bind (·.inst (u.normArgs e.args)) with
    | none => exact ⟨rfl, rfl⟩
    | some rel =>
      simp only [ht, Option.bind_some] at hinst
      have hka : kinded (u.normArgs e.args) u.sig = true := by
        obtain ⟨cs, hc, -⟩ := Option.map_eq_some_iff.mp hinst
        exact kinded_of_render hT.1 (hts ▸ hc)
      have key := puts_refine T hS hD R u t ht _ rel hinst hka k hk _
        (prefixKV_kinded u e.args u.innerSig e.inner hT.2) fs.at
      cases hp : u.pattern with
      | perKey =>
        obtain ⟨h1, h2⟩ := loopKey_spec u e.args (R ++ rel) e.inner _ fs (getD_view fs _)
        exact ⟨h1, h2 ▸ key.1⟩
      | perFile =>
        simp only [foldFile_spec]
        cases (prefixKV u e.args e.inner).2 with
        | some err => exact ⟨rfl, rfl⟩
        | none =>
          refine ⟨rfl, ?_⟩
          rw [write_fold fs (R ++ rel) _ _ (getD_view fs _)]
          exact key.1
      | whole =>
        obtain ⟨h1, h2⟩ := loopWhole_spec u e.args (R ++ rel) e.inner fs
        exact ⟨h1, h2 ▸ key.2 hp⟩

theorem entries_refine (T : Tables) (hS : T.shapesOk = true) (hD : T.disjointOk = true) (R : Path)
    (u : UpdFn) (k : Key) (hk : k.ok = true) (inp : UpdInput) (hT : InputTyped u inp)
    (fs : FS) :
    RefinesAt T R k fs (seqEntries (updateEntry u (T.tmplOfUpd u) R) inp fs) (updPuts T u inp) := by
  induction inp generalizing fs with
  | nil => exact ⟨rfl, rfl⟩
  | cons e es ih =>
    exact (updateEntry_refines T hS hD R u e (hT e (List.mem_cons_self ..)) fs k hk).bind
      fun fs' => ih (fun e' h => hT e' (List.mem_cons_of_mem _ h)) fs'

/-- **refinement of one `update_*` call**: seen through the getters' key → value map, the call is the list of point
updates `updPuts` of the dictionary it iterates (`prep`: the dictionary it was given — except that `update_pec_rates`,
while `pecReindexes`, fetches the rate of an entry whose class key is not lower-case from the lower-case class entry),
and its outcome is `updPuts.2` -/
theorem update_refines (T : Tables) (hS : T.shapesOk = true) (hD : T.disjointOk = true)
    (u : UpdFn) (inp : UpdInput) (hT : InputTyped u inp) (root : Option Path) (fs : FS) (k : Key)
    (hk : k.ok = true) :
    RefinesAt T (resolve root) k fs (update T u inp root fs) (updPuts T u (u.prep T inp)) :=
  entries_refine T hS hD (resolve root) u k hk (u.prep T inp) (prep_typed T u inp hT) fs

/-- the value of the last point update of `k` in the list, if any -/
def lastWrite : List (Key × Val) → Key → Option Val
  | [], _ => none
  | kv :: t, k =>
    match lastWrite t k with
    | some v => some v
    | none => if k = kv.1 then some kv.2 else none

theorem applyPuts_lastWrite (l : List (Key × Val)) (m : KV) (k : Key) :
    applyPuts l m k = match lastWrite l k with
      | some v => some v
      | none => m k := by
  induction l generalizing m with
  | nil => rfl
  | cons kv t ih =>
    simp only [applyPuts, lastWrite, ih]
    cases lastWrite t k with
    | some v => rfl
    | none => simp only [putKV]; split <;> rfl

theorem lastWrite_eq_none_iff {l : List (Key × Val)} {k : Key} : lastWrite l k = none ↔ k ∉ l.map Prod.fst := by
  induction l with
  | nil => simp [lastWrite]
  | cons kv t ih =>
    simp only [lastWrite, List.map_cons, List.mem_cons, not_or, ← ih]
    cases lastWrite t k <;> simp

theorem lastWrite_mem (l : List (Key × Val)) (k : Key) (v : Val) (h : lastWrite l k = some v) : (k, v) ∈ l := by
  fun_induction lastWrite l k with
  | case1 | case4 => cases h
  | case2 kv t k w hw ih => cases h; exact List.mem_cons_of_mem _ (ih hw)
  | case3 => cases h; exact List.mem_cons_self ..

theorem applyPuts_not_mem (l : List (Key × Val)) (m : KV) (k : Key) (h : k ∉ l.map Prod.fst) :
    applyPuts l m k = m k := by
  rw [applyPuts_lastWrite, lastWrite_eq_none_iff.mpr h]

theorem applyPuts_isSome (l : List (Key × Val)) (m : KV) (k : Key) (h : (m k).isSome = true) :
    (applyPuts l m k).isSome = true := by
  rw [applyPuts_lastWrite]; cases lastWrite l k <;> simp [h]

theorem applyPuts_snoc (l : List (Key × Val)) (m : KV) (k : Key) (v : Val) :
    applyPuts (l ++ [(k, v)]) m k = some v := by
  rw [applyPuts_append]; simp [applyPuts, putKV]

/-- every key the nested dictionary addresses, in iteration order -/
def targets (u : UpdFn) (inp : UpdInput) : List Key :=
  inp.flatMap fun e => e.inner.map fun it => ⟨u, u.normArgs e.args, it.1.map Arg.norm⟩

theorem targets_of_shape (u : UpdFn) (a b : UpdInput) (h : a.map FileEntry.shape = b.map FileEntry.shape) :
    targets u a = targets u b := by
  have key : ∀ inp : UpdInput, targets u inp =
      (inp.map FileEntry.shape).flatMap fun s => s.2.map fun k => Key.mk u (u.normArgs s.1) (k.map Arg.norm) := by
    intro inp
    simp [targets, List.flatMap_map, FileEntry.shape, List.map_map, Function.comp_def]
  rw [key a, key b, h]

/-- the keys a call addresses are those of the dictionary it was given -/
theorem targets_prep (T : Tables) (u : UpdFn) (inp : UpdInput) : targets u (u.prep T inp) = targets u inp :=
  targets_of_shape u _ _ (prep_shape T u inp)

theorem prefixKV_complete (u : UpdFn) (outer : List Arg) (items : List (List Arg × Rate))
    (h : (prefixKV u outer items).2 = none) :
    (prefixKV u outer items).1.map Prod.fst = items.map fun it => it.1.map Arg.norm := by
  fun_induction prefixKV u outer items with
  | case1 => rfl
  | case2 => cases h
  | case3 it rest kv0 hi ih => simp only [List.map_cons, ih h, (itemKV_ok hi).1]

theorem entryPuts_cases (T : Tables) (u : UpdFn) (e : FileEntry) :
    ((entryPuts T u e).1 = [] ∧ (entryPuts T u e).2 ≠ none) ∨
    ((entryPuts T u e).1 = keyed u (u.normArgs e.args) (prefixKV u e.args e.inner).1 ∧
      (entryPuts T u e).2 = (prefixKV u e.args e.inner).2) := by
  fun_cases entryPuts T u e
  -- a `perFile` entry all of whose items are accepted, the other two patterns, and the three rejections
  case case4 h0 => exact Or.inr ⟨rfl, h0.symm⟩
  case case5 => exact Or.inr ⟨rfl, rfl⟩
  all_goals exact Or.inl ⟨rfl, nofun⟩

theorem entryPuts_sub (T : Tables) (u : UpdFn) (e : FileEntry) :
    ∀ kv ∈ (entryPuts T u e).1, ∃ it ∈ e.inner,
      kv.1 = ⟨u, u.normArgs e.args, it.1.map Arg.norm⟩ ∧ u.validate it.2 = .ok kv.2 := by
  intro kv h
  rcases entryPuts_cases T u e with ⟨h0, -⟩ | ⟨h1, -⟩
  · rw [h0] at h; cases h
  · rw [h1] at h
    obtain ⟨kv0, hm, rfl⟩ := List.mem_map.mp h
    obtain ⟨it, hit, h1, h2⟩ := prefixKV_sub u e.args e.inner kv0 hm
    exact ⟨it, hit, by rw [h1], h2⟩

theorem entryPuts_complete (T : Tables) (u : UpdFn) (e : FileEntry) (h : (entryPuts T u e).2 = none) :
    (entryPuts T u e).1.map Prod.fst = e.inner.map fun it => ⟨u, u.normArgs e.args, it.1.map Arg.norm⟩ := by
  rcases entryPuts_cases T u e with ⟨-, h0⟩ | ⟨h1, h2⟩
  · exact absurd h h0
  · have hk : ∀ l, (keyed u (u.normArgs e.args) l).map Prod.fst = (l.map Prod.fst).map (Key.mk u (u.normArgs e.args)) := by
      intro l; rw [keyed, List.map_map, List.map_map]; rfl
    rw [h1, hk, prefixKV_complete u e.args e.inner (h2 ▸ h), List.map_map]
    rfl

/-- every point update of a call is one of the keys the call addresses, with the validated rate passed for it -/
theorem updPuts_sub (T : Tables) (u : UpdFn) (inp : UpdInput) :
    ∀ kv ∈ (updPuts T u inp).1, ∃ e ∈ inp, ∃ it ∈ e.inner,
      kv.1 = ⟨u, u.normArgs e.args, it.1.map Arg.norm⟩ ∧ u.validate it.2 = .ok kv.2 := by
  induction inp with
  | nil => intro kv h; cases h
  | cons e es ih =>
    intro kv h
    rcases mem_thenPuts h with h | h
    · exact ⟨e, List.mem_cons_self .., entryPuts_sub T u e kv h⟩
    · obtain ⟨e', he', hh⟩ := ih kv h
      exact ⟨e', List.mem_cons_of_mem _ he', hh⟩

theorem updPuts_keys_sub (T : Tables) (u : UpdFn) (inp : UpdInput) :
    ∀ k ∈ (updPuts T u inp).1.map Prod.fst, k ∈ targets u inp := by
  intro k hk
  simp only [List.mem_map] at hk
  obtain ⟨kv, hm, rfl⟩ := hk
  obtain ⟨e, he, it, hit, h1, _⟩ := updPuts_sub T u inp kv hm
  simp only [targets, List.mem_flatMap, List.mem_map]
  exact ⟨e, he, it, hit, h1.symm⟩

/-- a call that is not rejected performs a point update for *every* key it addresses, in order -/
theorem updPuts_complete (T : Tables) (u : UpdFn) (inp : UpdInput) (h : (updPuts T u inp).2 = none) :
    (updPuts T u inp).1.map Prod.fst = targets u inp := by
  induction inp with
  | nil => rfl
  | cons e es ih =>
    obtain ⟨h1, h2, h3⟩ := thenPuts_none h
    rw [show (updPuts T u (e :: es)).1 = _ from h3, List.map_append, entryPuts_complete T u e h1, targets,
      List.flatMap_cons]
    exact congrArg _ (ih h2)

theorem loopKey_read (u : UpdFn) (outer : List Arg) (path p : Path) (hp : p ≠ path) (items : List (List Arg × Rate))
    (c : File) (fs : FS) : (loopKey u outer path c items fs).1.read p = fs.read p := by
  fun_induction loopKey u outer path c items fs with
  | case1 | case2 => rfl
  | case3 c it rest fs c' _ ih => rw [ih, read_write, if_neg hp]

theorem loopWhole_read (u : UpdFn) (outer : List Arg) (path p : Path) (hp : p ≠ path) (items : List (List Arg × Rate))
    (fs : FS) : (loopWhole u outer path items fs).1.read p = fs.read p := by
  fun_induction loopWhole u outer path items fs with
  | case1 | case2 => rfl
  | case3 fs it rest c' _ ih => rw [ih, read_write, if_neg hp]

theorem updateEntry_read (u : UpdFn) (tmpl : Option Template) (R : Path) (e : FileEntry) (fs : FS) (p : Path)
    (hp : ¬ R <+: p) : (updateEntry u tmpl R e fs).1.read p = fs.read p := by
  unfold updateEntry
  split
  · rfl
  · split
    · rfl
    · next rel _ =>
      have hne : p ≠ R ++ rel := fun h => hp (h ▸ List.prefix_append R rel)
      split
      · exact loopKey_read u e.args _ p hne e.inner _ fs
      · dsimp only
        split
        · rfl
        · exact (read_write ..).trans (if_neg hne)
      · exact loopWhole_read u e.args _ p hne e.inner fs

theorem seqEntries_read (g : FileEntry → FS → Res) (p : Path) (h : ∀ e fs, (g e fs).1.read p = fs.read p)
    (es : List FileEntry) (fs : FS) : (seqEntries g es fs).1.read p = fs.read p := by
  induction es generalizing fs with
  | nil => rfl
  | cons e es ih => exact Res.bind_read (h e fs) ih

/-- `update_x(…, root)` leaves every file that is not under `resolve root` exactly as it was -/
theorem update_read (T : Tables) (u : UpdFn) (inp : UpdInput) (root : Option Path) (fs : FS) (p : Path)
    (hp : ¬ resolve root <+: p) : (update T u inp root fs).1.read p = fs.read p :=
  seqEntries_read _ p (fun e fs => updateEntry_read u _ _ e fs p hp) (u.prep T inp) fs

theorem add_read (T : Tables) (a : AddFn) (args : List Arg) (items : List (List Arg × Rate)) (root : Option Path)
    (fs : FS) (p : Path) (hp : ¬ resolve root <+: p) : (add T a args items root fs).1.read p = fs.read p :=
  seqEntries_read _ p (fun e fs => updateEntry_read _ _ _ e fs p hp) _ fs

theorem installSeq_read (T : Tables) (root : Option Path) (p : Path) (hp : ¬ resolve root <+: p)
    (calls : List (UpdFn × Bool)) (hall : ∀ c ∈ calls, c.2 = true) :
    ∀ (inps : List UpdInput) (fs : FS), (installSeq T calls inps root fs).1.read p = fs.read p := by
  induction calls with
  | nil => intro _ _; rfl
  | cons c cs ih =>
    intro inps fs
    obtain ⟨u, b⟩ := c
    cases inps with
    | nil => rfl
    | cons inp inps =>
      obtain rfl : b = true := hall (u, b) (List.mem_cons_self ..)
      exact Res.bind_read (update_read T u inp root fs p hp) (ih (fun c h => hall c (List.mem_cons_of_mem _ h)) inps)

/-- `install_files(…, root)` touches nothing outside `resolve root` when every front-end call hands the root on -/
theorem installFiles_read (T : Tables) (hR : T.rootPassed = true) (root : Option Path) (p : Path)
    (hp : ¬ resolve root <+: p) : ∀ (cfg : List (InstallFn × List UpdInput)) (fs : FS),
    (installFiles T cfg root fs).1.read p = fs.read p := by
  intro cfg
  induction cfg with
  | nil => intro fs; rfl
  | cons c cs ih =>
    intro fs
    rw [installFiles_cons, passes_of_rootPassed T hR, if_pos rfl]
    exact Res.bind_read (installSeq_read T root p hp _ (rootPassed_of T hR c.1) c.2 fs) ih

theorem populate_read (T : Tables) (hR : T.rootPassed = true) (cfg : List (InstallFn × List UpdInput)) (wl : UpdInput)
    (root : Option Path) (fs : FS) (p : Path) (hp : ¬ resolve root <+: p) :
    (populate T cfg wl root fs).1.read p = fs.read p := by
  rw [populate_eq, passes_of_rootPassed T hR, passes_of_rootPassed T hR, if_pos rfl]
  exact Res.bind_read (installFiles_read T hR root p hp cfg fs) fun fs' => update_read T .wavelength wl root fs' p hp

/-- `lower` is `Char.toLower` on every character: the lower-casing of a literal is a computation on its characters -/
theorem lower_eq_of_toList {s t : String} (h : s.toList.map Char.toLower = t.toList) : lower s = t :=
  String.toList_injective (String.toList_map.trans h)

theorem lower_excitation : lower "excitation" = "excitation" := lower_eq_of_toList (by simp)

theorem lower_recombination : lower "recombination" = "recombination" := lower_eq_of_toList (by simp)

theorem pecReindex_lower (inp : UpdInput) (h : ∀ e ∈ inp, ∀ c rest, e.args = .str c :: rest → lower c = c) :
    pecReindex inp = inp := by
  unfold pecReindex
  conv => rhs; rw [← List.map_id inp]
  apply List.map_congr_left
  intro e he
  simp only [id]
  split
  · next c rest hargs => simp [h e he c rest hargs]
  · rfl

theorem prep_eq_self (T : Tables) (u : UpdFn) (inp : UpdInput)
    (h : u = .pec → ∀ e ∈ inp, ∀ c rest, e.args = .str c :: rest → lower c = c) : u.prep T inp = inp := by
  fun_cases UpdFn.prep T u inp
  · exact pecReindex_lower inp (h rfl)
  all_goals rfl

theorem wrap_shape (T : Tables) (a : AddFn) (args : List Arg) (items : List (List Arg × Rate)) :
    a.wrap T args items = [] ∨ ∃ e, a.wrap T args items = [e] ∧
      (a.own = .pec → ∃ rest, e.args = .str ((T.addFixed a).getD "") :: rest) := by
  fun_cases AddFn.wrap T a args items
  -- the arms of `pecExcitation` and `pecRecombination`, the catch-all, and the arms of the other families
  case case7 | case8 => exact Or.inr ⟨_, rfl, fun _ => ⟨_, rfl⟩⟩
  case case15 => exact Or.inl rfl
  all_goals exact Or.inr ⟨_, rfl, fun h => nomatch h⟩

/-- the dictionaries the `add_*` functions build carry the lower-case class of the family: nothing is re-fetched -/
theorem prep_wrap (T : Tables) (a : AddFn) (hf : T.addFixed a = a.ownFixed) (args : List Arg)
    (items : List (List Arg × Rate)) : a.own.prep T (a.wrap T args items) = a.wrap T args items := by
  apply prep_eq_self
  intro hp e he c rest hargs
  rcases wrap_shape T a args items with h0 | ⟨e0, h1, h2⟩
  · rw [h0] at he; cases he
  · obtain ⟨rest', hr⟩ := h2 hp
    rw [h1, List.mem_singleton] at he
    rw [he, hr, hf] at hargs
    obtain rfl : a.ownFixed.getD "" = c := by injection hargs with h _; injection h
    cases a <;> cases hp
    · exact lower_excitation
    · exact lower_recombination

/-- `add_matches_update` (generic half): if the tables say so, `add_y(args, rate, root)` *is* `update_<own family>` of
the dictionary `wrap` builds -/
theorem add_eq_update (T : Tables) (h : T.addMatches = true) (a : AddFn) (args : List Arg)
    (items : List (List Arg × Rate)) (root : Option Path) (fs : FS) :
    add T a args items root fs = update T a.own (a.wrap T args items) root fs := by
  obtain ⟨h1, h2, h3⟩ := addMatches_of T h a
  unfold add update
  rw [h1, h2, prep_wrap T a h3]

/-- the key a `get_z(args…)` call asks for -/
def getKey (g : GetFn) (args : List Arg) : Key :=
  let args' := match g.ownFixed with
    | some c => Arg.str c :: args
    | none => args
  ⟨g.own, (args'.take g.own.arity).map Arg.norm, (args'.drop g.own.arity).map Arg.norm⟩

/-- `get_z` unfolded once, in terms of the location of the requested key -/
theorem get_eq (T : Tables) (h : T.getMatches = true) (g : GetFn) (args : List Arg) (root : Option Path) (fs : FS) :
    get T g args root fs =
      match (getKey g args).loc T (resolve root) with
      | none => .error .attributeError
      | some l =>
        match fs.read l.1 with
        | none => .error .runtimeError
        | some file =>
          match g.own.getKind with
          | .keyed =>
            match alookup l.2 file with
            | some v => .ok [(l.2, v)]
            | none => .error .runtimeError
          | .prefixed =>
            match file.filter (fun kv => kv.1.head? == l.2.head?) with
            | [] => .error .runtimeError
            | r => .ok r := by
  obtain ⟨h1, h2⟩ := getMatches_of T h g
  unfold get getKey Key.loc
  simp only [h1, h2, ikeyOf]
  cases (T.tmplOfUpd g.own).bind (·.inst ((List.take g.own.arity (match g.ownFixed with
      | some c => Arg.str c :: args
      | none => args)).map Arg.norm)) <;> rfl

/-- getters of the keyed families return the value of the key → value map at the requested key, RuntimeError when it
has none (AttributeError when an argument has no `.symbol`) -/
theorem get_keyed (T : Tables) (h : T.getMatches = true) (g : GetFn) (hk : g.own.getKind = .keyed) (args : List Arg)
    (root : Option Path) (fs : FS) :
    get T g args root fs =
      match (getKey g args).loc T (resolve root) with
      | none => .error .attributeError
      | some _ =>
        match absView T (resolve root) fs.at (getKey g args) with
        | some v => .ok [(renderIKey (getKey g args).inner, v)]
        | none => .error .runtimeError := by
  rw [get_eq T h]
  unfold absView
  cases hl : (getKey g args).loc T (resolve root) with
  | none => rfl
  | some l =>
    simp only [hk, FS.at, loc_snd hl]
    cases fs.read l.1 <;> rfl

theorem alookup_filter {ν : Type} (P : IKey → Bool) (l : List (IKey × ν)) (k : IKey) (hk : P k = true) :
    alookup k (l.filter fun kv => P kv.1) = alookup k l := by
  fun_induction alookup k l with
  | case1 => rfl
  | case2 b t => simp [List.filter, hk, alookup]
  | case3 a b t ha ih => cases hp : P a <;> simp [List.filter, hp, alookup, ha, ih]

theorem alookup_isSome_of_mem {ν : Type} (l : List (IKey × ν)) (kv : IKey × ν) (h : kv ∈ l) :
    (alookup kv.1 l).isSome = true := by
  fun_induction alookup kv.1 l with
  | case1 => cases h
  | case2 => rfl
  | case3 a b t ha ih => exact ih ((List.mem_cons.mp h).resolve_left fun e => ha (by rw [e]))

/-- the beam-CX getter returns every stored metastable of the transition: looking an inner key of that transition up
in its result is looking it up in the repository; it raises RuntimeError exactly when no inner key of the transition
is stored -/
theorem get_prefixed (T : Tables) (h : T.getMatches = true) (g : GetFn) (hk : g.own.getKind = .prefixed)
    (args : List Arg) (root : Option Path) (fs : FS) (l : Path × IKey)
    (hl : (getKey g args).loc T (resolve root) = some l) :
    (∀ r, get T g args root fs = .ok r → ∀ ik : IKey, ik.head? = l.2.head? → alookup ik r = fs.at l.1 ik) ∧
    (get T g args root fs = .error .runtimeError ↔ ∀ ik : IKey, ik.head? = l.2.head? → fs.at l.1 ik = none) := by
  rw [get_eq T h]
  simp only [hl, hk, FS.at]
  cases fs.read l.1 with
  | none => exact ⟨nofun, iff_of_true rfl fun _ _ => rfl⟩
  | some file =>
    simp only [Option.bind_some]
    have hA : ∀ ik : IKey, ik.head? = l.2.head? →
        alookup ik (file.filter fun kv => kv.1.head? == l.2.head?) = alookup ik file :=
      fun ik hik => alookup_filter (fun ik : IKey => ik.head? == l.2.head?) file ik (beq_iff_eq.mpr hik)
    cases hfl : file.filter (fun kv => kv.1.head? == l.2.head?) with
    | nil => exact ⟨nofun, iff_of_true rfl fun ik hik => by rw [← hA ik hik, hfl]; rfl⟩
    | cons x xs =>
      refine ⟨fun r hr ik hik => ?_, iff_of_false nofun fun hall => ?_⟩
      · cases hr; rw [← hfl]; exact hA ik hik
      · have hx : x ∈ file.filter (fun kv => kv.1.head? == l.2.head?) := hfl ▸ List.mem_cons_self ..
        have := alookup_isSome_of_mem file x (List.mem_filter.mp hx).1
        rw [hall x.1 (beq_iff_eq.mp (List.mem_filter.mp hx).2)] at this
        cases this

theorem split_unique {α : Type} (x : α) (l₁ l₂ r₁ r₂ : List α) (h1 : x ∉ l₁) (h2 : x ∉ l₂)
    (h : l₁ ++ x :: r₁ = l₂ ++ x :: r₂) : l₁ = l₂ ∧ r₁ = r₂ := by
  induction l₁ generalizing l₂ with
  | nil =>
    cases l₂ with
    | nil => exact ⟨rfl, (List.cons.inj h).2⟩
    | cons b s => exact absurd ((List.cons.inj h).1 ▸ List.mem_cons_self) h2
  | cons a t ih =>
    cases l₂ with
    | nil => exact absurd ((List.cons.inj h).1 ▸ List.mem_cons_self) h1
    | cons b s =>
      obtain ⟨e1, e2⟩ := ih s (fun m => h1 (.tail _ m)) (fun m => h2 (.tail _ m)) (List.cons.inj h).2
      exact ⟨by rw [(List.cons.inj h).1, e1], e2⟩

theorem join_inj (a a' b b' : String) (ha : '>' ∉ a.toList) (ha' : '>' ∉ a'.toList)
    (h : a ++ " -> " ++ b = a' ++ " -> " ++ b') : a = a' ∧ b = b' := by
  -- `>` occurs in neither `a` nor `a'`: the first `>` on either side is the separator's
  have hl : (a.toList ++ [' ', '-']) ++ '>' :: ' ' :: b.toList = (a'.toList ++ [' ', '-']) ++ '>' :: ' ' :: b'.toList := by
    simpa using congrArg String.toList h
  obtain ⟨e1, e2⟩ := split_unique '>' _ _ _ _ (by simp [ha]) (by simp [ha']) hl
  exact ⟨String.toList_injective (List.append_cancel_right e1), String.toList_injective (List.cons.inj e2).2⟩

end Cherab.Repository
