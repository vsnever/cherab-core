import Cherab.Model.Caching
import Mathlib.Tactic.Ring
import Mathlib.Tactic.Linarith
import Mathlib.Tactic.Push
import Mathlib.Algebra.Order.Field.Basic

/-!
Helper lemmas for C14: the lazily filled cache (generic over the dimension) and `find_index`.
-/
namespace Cherab.Caching
set_option linter.unusedSectionVars false

section Assoc
variable {ν β : Type} [DecidableEq ν]

@[simp] theorem lookup_nil (u : ν) : lookup u ([] : List (ν × β)) = none := rfl

theorem lookup_cons (u k : ν) (v : β) (t : List (ν × β)) :
    lookup u ((k, v) :: t) = if k = u then some v else lookup u t := rfl

theorem lookup_cons_self (u : ν) (v : β) (t : List (ν × β)) : lookup u ((u, v) :: t) = some v := by
  simp [lookup_cons]

theorem lookup_cons_ne {u k : ν} (h : k ≠ u) (v : β) (t : List (ν × β)) :
    lookup u ((k, v) :: t) = lookup u t := by
  simp [lookup_cons, h]

theorem lookup_cons_forall {p : ν → β → Prop} {k : ν} {x : β} {t : List (ν × β)} (hk : p k x)
    (ht : ∀ u v, lookup u t = some v → p u v) : ∀ u v, lookup u ((k, x) :: t) = some v → p u v := by
  intro u v h
  rw [lookup_cons] at h
  split at h
  · rename_i e
    cases e
    cases h
    exact hk
  · exact ht u v h

end Assoc

section Memo
variable {α P ν κ C : Type} [DecidableEq ν] [DecidableEq κ]
variable (S : Spec α P ν κ C) (E : Env α P)

/-- every stored sample is the normalised wrapped-function value at that node; the function returned there (did not
raise) and the value is not NaN -/
def DataInv (d : List (ν × α)) : Prop :=
  ∀ u v, lookup u d = some v → ∃ w, E.f (S.coord u) = some w ∧ E.isnan w = false ∧ v = E.norm w

/-- every stored coefficient block is the one built from the pure node values -/
def CoeffInv (cs : List (κ × C)) : Prop :=
  ∀ c co, lookup c cs = some co →
    (S.stencil c).all (fun u => (E.f (S.coord u)).isSome) = true ∧
    S.build c ((S.stencil c).map (nodeVal S E)) = some co

def Inv (st : St α ν κ C) : Prop := DataInv S E st.data ∧ CoeffInv S E st.coeffs

theorem inv_init : Inv S E (St.init : St α ν κ C) := by
  constructor <;> intro a b h <;> simp [St.init] at h

theorem evalPure_none (nbe : Bool) {p : P} (hc : S.locate p = none) :
    evalPure S E nbe p = if nbe then (match E.f p with | some v => .val v | none => .fraise) else .raise := by
  unfold evalPure; rw [hc]; rfl

theorem evalPure_some (nbe : Bool) {p : P} {c : κ} (hc : S.locate p = some c) :
    evalPure S E nbe p =
      if (S.stencil c).all (fun u => (E.f (S.coord u)).isSome) then
        match S.build c ((S.stencil c).map (nodeVal S E)) with
        | some co => .val (S.poly co p)
        | none => .error
      else .fraise := by
  unfold evalPure; rw [hc]; rfl

theorem evalPure_val (nbe : Bool) {p : P} {c : κ} {v : α} (hc : S.locate p = some c)
    (h : evalPure S E nbe p = .val v) :
    ∃ co, S.build c ((S.stencil c).map (nodeVal S E)) = some co ∧ v = S.poly co p := by
  rw [evalPure_some S E nbe hc] at h
  split at h
  · split at h
    · rename_i co hb; cases h; exact ⟨co, hb, rfl⟩
    · cases h
  · cases h

theorem evalPure_of_build (nbe : Bool) {p : P} {c : κ} {co : C} (hc : S.locate p = some c)
    (hall : (S.stencil c).all (fun u => (E.f (S.coord u)).isSome) = true)
    (hb : S.build c ((S.stencil c).map (nodeVal S E)) = some co) : evalPure S E nbe p = .val (S.poly co p) := by
  rw [evalPure_some S E nbe hc, hall, if_pos rfl, hb]

theorem readNode_present {d : List (ν × α)} (hd : DataInv S E d) {u : ν} {v : α}
    (h : lookup u d = some v) : readNode E d u = nodeVal S E u := by
  obtain ⟨w, h0, h1, h2⟩ := hd u v h
  simp [readNode, nodeVal, h, h0, h1, h2]

theorem readNode_nan {d : List (ν × α)} (hd : DataInv S E d) {u : ν} {w : α}
    (h0 : E.f (S.coord u) = some w) (h : E.isnan w = true) : readNode E d u = nodeVal S E u := by
  have : lookup u d = none := by
    cases hl : lookup u d with
    | none => rfl
    | some v =>
      obtain ⟨w', a, b, _⟩ := hd u v hl
      rw [h0] at a; cases a; rw [h] at b; cases b
  simp [readNode, nodeVal, this, h0, h]

theorem sample_stored {u : ν} {d : List (ν × α)} {v : α} (us : List ν) (hl : lookup u d = some v) :
    sample S E (u :: us) d = sample S E us d := by
  rw [sample, hl]

theorem sample_raise {u : ν} {d : List (ν × α)} (us : List ν) (hl : lookup u d = none)
    (hf : E.f (S.coord u) = none) : sample S E (u :: us) d = (d, [S.coord u], false) := by
  rw [sample, hl, hf]

theorem sample_call {u : ν} {d : List (ν × α)} {w : α} (us : List ν) (hl : lookup u d = none)
    (hf : E.f (S.coord u) = some w) :
    sample S E (u :: us) d =
      ((sample S E us (if E.isnan w then d else (u, E.norm w) :: d)).1,
        S.coord u :: (sample S E us (if E.isnan w then d else (u, E.norm w) :: d)).2.1,
        (sample S E us (if E.isnan w then d else (u, E.norm w) :: d)).2.2) := by
  rw [sample, hl, hf]

/-- the sampling loop keeps the invariant, never disturbs an existing sample, runs to its end exactly when the wrapped
function returns at every node of the list, and then every node of the list reads as its pure value -/
theorem sample_spec (L : List ν) : ∀ (d : List (ν × α)), DataInv S E d →
    DataInv S E (sample S E L d).1 ∧
    (∀ u v, lookup u d = some v → lookup u (sample S E L d).1 = some v) ∧
    (sample S E L d).2.2 = L.all (fun u => (E.f (S.coord u)).isSome) ∧
    ((sample S E L d).2.2 = true → ∀ u ∈ L, readNode E (sample S E L d).1 u = nodeVal S E u) := by
  induction L with
  | nil => intro d hd; exact ⟨hd, fun _ _ h => h, rfl, fun _ _ h => by cases h⟩
  | cons u us ih =>
    intro d hd
    rw [List.all_cons]
    cases hl : lookup u d with
    | some v =>
      rw [sample_stored S E us hl]
      obtain ⟨i1, i2, i3, i4⟩ := ih d hd
      obtain ⟨w, h0, -, -⟩ := hd u v hl
      rw [h0]
      exact ⟨i1, i2, i3, fun hok => List.forall_mem_cons.mpr ⟨readNode_present S E i1 (i2 _ _ hl), i4 hok⟩⟩
    | none =>
      cases hf : E.f (S.coord u) with
      | none =>
        rw [sample_raise S E us hl hf]
        exact ⟨hd, fun _ _ h => h, rfl, fun h => by cases h⟩
      | some w =>
        rw [sample_call S E us hl hf]
        cases hn : E.isnan w with
        | true =>
          rw [if_pos rfl]
          obtain ⟨i1, i2, i3, i4⟩ := ih d hd
          exact ⟨i1, i2, i3, fun hok => List.forall_mem_cons.mpr ⟨readNode_nan S E i1 hf hn, i4 hok⟩⟩
        | false =>
          rw [if_neg Bool.false_ne_true]
          obtain ⟨i1, i2, i3, i4⟩ := ih _ (lookup_cons_forall ⟨w, hf, hn, rfl⟩ hd)
          refine ⟨i1, fun u' v h => i2 u' v ?_, i3, fun hok => List.forall_mem_cons.mpr
            ⟨readNode_present S E i1 (i2 _ _ (lookup_cons_self _ _ _)), i4 hok⟩⟩
          -- the new entry is at `u`, where `d` had none
          rw [lookup_cons_ne]
          · exact h
          · rintro rfl
            rw [hl] at h
            cases h

theorem evalStep_none (nbe : Bool) (st : St α ν κ C) {p : P} (h : S.locate p = none) :
    evalStep S E nbe st p =
      (st, if nbe then (match E.f p with | some v => .val v | none => .fraise) else .raise, if nbe then [p] else []) := by
  unfold evalStep
  rw [h]
  cases nbe
  · rfl
  · cases E.f p <;> rfl

theorem evalStep_hit (nbe : Bool) (st : St α ν κ C) {p : P} {c : κ} {co : C} (hc : S.locate p = some c)
    (hl : lookup c st.coeffs = some co) : evalStep S E nbe st p = (st, .val (S.poly co p), []) := by
  unfold evalStep
  rw [hc]
  simp only [hl]

/-- a cell that is not yet calculated: whatever happens, the new data and the calls are those of the sampling loop; a
coefficient block is stored exactly when a value is returned -/
theorem evalStep_miss (nbe : Bool) (st : St α ν κ C) {p : P} {c : κ} (hc : S.locate p = some c)
    (hl : lookup c st.coeffs = none) :
    ∃ o cs, evalStep S E nbe st p =
        ({ data := (sample S E (S.stencil c) st.data).1, coeffs := cs }, o, (sample S E (S.stencil c) st.data).2.1) ∧
      ((∃ co, (sample S E (S.stencil c) st.data).2.2 = true ∧
          S.build c ((S.stencil c).map (readNode E (sample S E (S.stencil c) st.data).1)) = some co ∧
          o = .val (S.poly co p) ∧ cs = (c, co) :: st.coeffs) ∨
       ((sample S E (S.stencil c) st.data).2.2 = true ∧
          S.build c ((S.stencil c).map (readNode E (sample S E (S.stencil c) st.data).1)) = none ∧
          o = .error ∧ cs = st.coeffs) ∨
       ((sample S E (S.stencil c) st.data).2.2 = false ∧ o = .fraise ∧ cs = st.coeffs)) := by
  unfold evalStep
  rw [hc]
  simp only [hl]
  cases hok : (sample S E (S.stencil c) st.data).2.2 with
  | false => exact ⟨_, _, rfl, .inr (.inr ⟨rfl, rfl, rfl⟩)⟩
  | true =>
    cases hb : S.build c ((S.stencil c).map (readNode E (sample S E (S.stencil c) st.data).1)) with
    | none => exact ⟨_, _, rfl, .inr (.inl ⟨rfl, rfl, rfl, rfl⟩)⟩
    | some co => exact ⟨_, _, rfl, .inl ⟨co, rfl, rfl, rfl, rfl⟩⟩

theorem evalStep_spec (nbe : Bool) (st : St α ν κ C) (hst : Inv S E st) (p : P) :
    Inv S E (evalStep S E nbe st p).1 ∧ (evalStep S E nbe st p).2.1 = evalPure S E nbe p := by
  cases hloc : S.locate p with
  | none => rw [evalStep_none S E nbe st hloc, evalPure_none S E nbe hloc]; exact ⟨hst, rfl⟩
  | some c =>
    rw [evalPure_some S E nbe hloc]
    cases hco : lookup c st.coeffs with
    | some co =>
      obtain ⟨h1, h2⟩ := hst.2 c co hco
      rw [evalStep_hit S E nbe st hloc hco, h1, if_pos rfl, h2]
      exact ⟨hst, rfl⟩
    | none =>
      obtain ⟨i1, _, i3, i4⟩ := sample_spec S E (S.stencil c) st.data hst.1
      have hv : (sample S E (S.stencil c) st.data).2.2 = true →
          (S.stencil c).map (readNode E (sample S E (S.stencil c) st.data).1) = (S.stencil c).map (nodeVal S E) :=
        fun hok => List.map_congr_left (i4 hok)
      obtain ⟨o, cs, he, ⟨co, hok, hb, rfl, rfl⟩ | ⟨hok, hb, rfl, rfl⟩ | ⟨hok, rfl, rfl⟩⟩ :=
        evalStep_miss S E nbe st hloc hco
      · rw [hv hok] at hb
        rw [he, ← i3, hok, if_pos rfl, hb]
        exact ⟨⟨i1, lookup_cons_forall ⟨i3 ▸ hok, hb⟩ hst.2⟩, rfl⟩
      · rw [hv hok] at hb
        rw [he, ← i3, hok, if_pos rfl, hb]
        exact ⟨⟨i1, hst.2⟩, rfl⟩
      · rw [he, ← i3, hok, if_neg Bool.false_ne_true]
        exact ⟨⟨i1, hst.2⟩, rfl⟩

theorem run_inv (nbe : Bool) (ps : List P) : ∀ st : St α ν κ C, Inv S E st → Inv S E (run S E nbe st ps) := by
  induction ps with
  | nil => intro st h; exact h
  | cons p ps ih =>
    intro st h
    simp only [run, List.foldl_cons]
    exact ih _ (evalStep_spec S E nbe st h p).1

/-- a stored sample is never requested again; when the wrapped function returns everywhere, an unsampled node of a
duplicate-free stencil is requested exactly once, in stencil order -/
theorem sample_calls (L : List ν) (hnd : L.Nodup) (htot : ∀ q, (E.f q).isSome) : ∀ (d : List (ν × α)),
    (sample S E L d).2.1 = (L.filter fun u => (lookup u d).isNone).map S.coord := by
  induction L with
  | nil => intro d; rfl
  | cons u us ih =>
    intro d
    obtain ⟨hu, hnd'⟩ := List.nodup_cons.mp hnd
    rw [List.filter_cons]
    cases hl : lookup u d with
    | some v => rw [sample_stored S E us hl, ih hnd' d]; rfl
    | none =>
      obtain ⟨w, hf⟩ := Option.isSome_iff_exists.mp (htot (S.coord u))
      rw [sample_call S E us hl hf, ih hnd', if_pos Option.isNone_none, List.map_cons]
      -- the data has changed at `u` at most, and `u` does not come again
      refine congrArg (fun l => S.coord u :: l.map S.coord) (List.filter_congr fun u' hu' => ?_)
      split
      · rfl
      · rw [lookup_cons_ne]
        rintro rfl
        exact hu hu'

/-- when the wrapped function raises, the call at which it raised is the last one made -/
theorem sample_raise_last (L : List ν) : ∀ (d : List (ν × α)), (sample S E L d).2.2 = false →
    ∃ q, (sample S E L d).2.1.getLast? = some q ∧ E.f q = none := by
  induction L with
  | nil => intro d h; cases h
  | cons u us ih =>
    intro d h
    cases hl : lookup u d with
    | some v =>
      rw [sample_stored S E us hl] at h ⊢
      exact ih d h
    | none =>
      cases hf : E.f (S.coord u) with
      | none =>
        rw [sample_raise S E us hl hf]
        exact ⟨S.coord u, rfl, hf⟩
      | some w =>
        rw [sample_call S E us hl hf] at h ⊢
        obtain ⟨q, h1, h2⟩ := ih _ h
        refine ⟨q, ?_, h2⟩
        rw [List.getLast?_cons, h1]; rfl

end Memo

section Find
variable {α : Type} [Field α] [LinearOrder α] [IsStrictOrderedRing α]

/-- the bisection loop: with enough fuel it stops on a bracketing interval.  No ordering of `x` is needed for the
bracket itself (the invariant `x b ≤ v < x t` is local); `top − bottom` iterations suffice, which is the termination
argument of the `while` loop. -/
theorem bisect_spec (x : Nat → α) (v : α) : ∀ (fuel b t : Nat), b < t → t - b ≤ fuel + 1 → x b ≤ v → v < x t →
    b ≤ bisect x v fuel b t ∧ bisect x v fuel b t < t ∧
      x (bisect x v fuel b t) ≤ v ∧ v < x (bisect x v fuel b t + 1) := by
  intro fuel
  induction fuel with
  | zero =>
    intro b t hbt hf hb ht
    obtain rfl : t = b + 1 := by omega
    exact ⟨le_rfl, Nat.lt_succ_self b, hb, ht⟩
  | succ n ih =>
    intro b t hbt hf hb ht
    rw [bisect]
    split
    · obtain rfl : t = b + 1 := by omega
      exact ⟨le_rfl, Nat.lt_succ_self b, hb, ht⟩
    · have hm : b < (t + b) / 2 ∧ (t + b) / 2 < t := by omega
      dsimp only
      split
      · rename_i hv
        obtain ⟨r1, r⟩ := ih ((t + b) / 2) t hm.2 (by omega) hv ht
        exact ⟨hm.1.le.trans r1, r⟩
      · rename_i hv
        obtain ⟨r1, r2, r⟩ := ih b ((t + b) / 2) hm.1 (by omega) hb (not_le.mp hv)
        exact ⟨r1, r2.trans hm.2, r⟩

/-- the exits of `find_index` with `padding = 0`: the two padded returns (−1 and `top`) cannot be reached, which leaves
the two end points, below, above, and the bisection -/
theorem findIndex_cases (x : Nat → α) (top : Nat) (v : α) :
    (v = x 0 ∧ findIndex x top v 0 = 0) ∨
    (v ≠ x 0 ∧ v = x top ∧ findIndex x top v 0 = (top : Int) - 1) ∨
    (v < x 0 ∧ findIndex x top v 0 = -2) ∨
    (x top < v ∧ x 0 < v ∧ findIndex x top v 0 = (top : Int) + 1) ∨
    (x 0 < v ∧ v < x top ∧ findIndex x top v 0 = (bisect x v top 0 top : Nat)) := by
  unfold findIndex
  simp only [beq_iff_eq, sub_zero, add_zero]
  by_cases h0 : v = x 0
  · exact .inl ⟨h0, if_pos h0⟩
  by_cases ht : v = x top
  · exact .inr (.inl ⟨h0, ht, by rw [if_neg h0, if_pos ht]⟩)
  by_cases hl : v < x 0
  · exact .inr (.inr (.inl ⟨hl, by rw [if_neg h0, if_neg ht, if_pos hl]⟩))
  have h0' : x 0 < v := lt_of_le_of_ne (not_lt.mp hl) (Ne.symm h0)
  by_cases hg : v > x top
  · exact .inr (.inr (.inr (.inl ⟨hg, h0', by rw [if_neg h0, if_neg ht, if_neg hl, if_pos hg]⟩)))
  · exact .inr (.inr (.inr (.inr ⟨h0', lt_of_le_of_ne (not_lt.mp hg) ht,
      by rw [if_neg h0, if_neg ht, if_neg hl, if_neg hg, if_neg hl, if_neg hg]⟩)))

theorem findIndex_bracket (x : Nat → α) (top : Nat) (v : α) (h0 : x 0 < v) (ht : v < x top) :
    ∃ i : Nat, findIndex x top v 0 = (i : Int) ∧ i < top ∧ x i ≤ v ∧ v < x (i + 1) := by
  have htop : 0 < top := by
    by_contra h
    have : top = 0 := by omega
    subst this
    exact absurd (lt_trans h0 ht) (lt_irrefl _)
  rcases findIndex_cases x top v with h | h | h | h | h
  · exact absurd h.1 (ne_of_gt h0)
  · exact absurd h.2.1 (ne_of_lt ht)
  · exact absurd (lt_trans h.1 h0) (lt_irrefl _)
  · exact absurd (lt_trans h.1 ht) (lt_irrefl _)
  · obtain ⟨_, r2, r3, r4⟩ := bisect_spec x v top 0 top htop (by omega) h0.le ht
    exact ⟨_, h.2.2, r2, r3, r4⟩

end Find
end Cherab.Caching
