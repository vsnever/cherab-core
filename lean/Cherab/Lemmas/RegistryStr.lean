import Cherab.Lemmas.Registry

/-!
# `str(int)` on codes: injective, all-digit, fixed by `lower`; `lower` idempotent

General arithmetic facts about `strNatAux` / `strNat` / `strInt` (Model/Registry.lean): a decimal numeral determines
the integer (it can be read back), all its bytes are ASCII digits — so lower-casing does not change it, its last byte is
a digit, and a numeral with a minus sign is never the numeral of a natural number.  Also here, because it rests on
`lower (cat a (strNat n)) = cat (lower a) (strNat n)`: `Iso.spelledAfterElement`, the exact-spelling test that the table
checks of `Props/C19.lean` try before any lower-casing.
-/

namespace Cherab.Registry

theorem strNatAux_zero (f : Nat) : strNatAux f 0 = 0 := by
  cases f <;> rfl

theorem strNatAux_succ (f n : Nat) (h : n ≠ 0) :
    strNatAux (f + 1) n = strNatAux f (n / 10) * 256 + (48 + n % 10) := by
  simp [strNatAux, nbeq_false h]

theorem strNat_zero : strNat 0 = 48 := rfl

theorem strNat_of_ne {n : Nat} (h : n ≠ 0) : strNat n = strNatAux (n.log2 + 1) n := by
  simp [strNat, nbeq_false h]

theorem strNat_pos (n : Nat) : 0 < strNat n := by
  by_cases h0 : n = 0
  · rw [h0]; decide
  · rw [strNat_of_ne h0, strNatAux_succ _ n h0]; omega

/-! ### the numeral determines the number: it can be read back -/

def numVal (c : Nat) : Nat := if c = 0 then 0 else 10 * numVal (c / 256) + (c % 256 - 48)
decreasing_by exact Nat.div_lt_self (Nat.pos_of_ne_zero ‹_›) (by decide)

theorem numVal_zero : numVal 0 = 0 := by
  rw [numVal, if_pos rfl]

theorem numVal_snoc (s : Nat) {d : Nat} (h0 : 0 < d) (hd : d < 256) :
    numVal (s * 256 + d) = 10 * numVal s + (d - 48) := by
  rw [numVal, if_neg (by omega), snoc_div hd, snoc_mod hd]

theorem numVal_strNatAux : ∀ f n : Nat, n < 2 ^ f → numVal (strNatAux f n) = n
  | 0, n, hn => by
    rw [show n = 0 by simpa using hn]
    exact numVal_zero
  | f + 1, n, hn => by
    by_cases h0 : n = 0
    · rw [h0, strNatAux_zero]; exact numVal_zero
    · rw [strNatAux_succ f n h0, numVal_snoc _ (by omega) (by omega),
        numVal_strNatAux f (n / 10) (by rw [pow_succ] at hn; omega)]
      omega

theorem numVal_strNat (n : Nat) : numVal (strNat n) = n := by
  by_cases h0 : n = 0
  · rw [h0, strNat_zero]; simp [numVal]
  · rw [strNat_of_ne h0]
    exact numVal_strNatAux _ n Nat.lt_log2_self

/-- **`str` is injective on non-negative ints** -/
theorem strNat_inj {n m : Nat} (h : strNat n = strNat m) : n = m := by
  rw [← numVal_strNat n, h, numVal_strNat]

/-- codes all of whose bytes are ASCII digits -/
inductive Digits : Nat → Prop
  | nil : Digits 0
  | snoc {s d : Nat} : Digits s → 48 ≤ d → d ≤ 57 → Digits (s * 256 + d)

theorem strNatAux_digits : ∀ f n : Nat, Digits (strNatAux f n)
  | 0, _ => .nil
  | f + 1, n => by
    by_cases h0 : n = 0
    · rw [h0, strNatAux_zero]; exact .nil
    · rw [strNatAux_succ f n h0]
      exact .snoc (strNatAux_digits f _) (by omega) (by omega)

theorem strNat_digits (n : Nat) : Digits (strNat n) := by
  by_cases h0 : n = 0
  · rw [h0]; exact .snoc (s := 0) .nil (Nat.le_refl _) (by omega)
  · rw [strNat_of_ne h0]; exact strNatAux_digits _ _

def endsInDigit (c : Nat) : Bool := decide (48 ≤ c % 256) && decide (c % 256 ≤ 57)

theorem Digits.endsInDigit {c : Nat} (h : Digits c) (h0 : c ≠ 0) : endsInDigit c = true := by
  cases h with
  | nil => exact absurd rfl h0
  | snoc _ h1 h2 =>
    simp only [Registry.endsInDigit, Bool.and_eq_true, decide_eq_true_eq]
    omega

theorem Digits.lowerAux {c : Nat} (h : Digits c) : ∀ g, c < 256 ^ g → lowerAux g c = c := by
  induction h with
  | nil => exact fun g _ => lowerAux_zero g
  | @snoc s d _ h1 h2 ih =>
    intro g hg
    cases g with
    | zero => rw [pow_zero] at hg; omega
    | succ g =>
      rw [pow_succ] at hg
      rw [lowerAux_snoc g s (by omega), ih g (by omega), lowerByte_eq, if_neg (by omega)]

/-- a `-` followed by `k` further bytes is not an all-digit code -/
theorem Digits.ne_minus {c : Nat} (h : Digits c) : ∀ k b, b < 256 ^ k → c ≠ 45 * 256 ^ k + b := by
  induction h with
  | nil => intro k b _; have : 0 < 256 ^ k := Nat.pow_pos (by norm_num); omega
  | @snoc s d _ h1 h2 ih =>
    intro k b hb
    cases k with
    | zero => simp at hb; omega
    | succ k =>
      intro heq
      rw [pow_succ] at hb heq
      exact ih k (b / 256) (by omega) (by omega)

theorem strNat_last (n : Nat) : endsInDigit (strNat n) = true :=
  (strNat_digits n).endsInDigit (strNat_pos n).ne'

/-- `str(n).lower() == str(n)` for n ≥ 0 -/
theorem lower_strNat (n : Nat) : lower (strNat n) = strNat n :=
  (strNat_digits n).lowerAux _ (lt_pow_bytes _)

/-- `str` of a negative int is never `str` of a non-negative one -/
theorem strInt_neg_ne (m z : Nat) : strInt (.negSucc m) ≠ strNat z := fun h =>
  (strNat_digits z).ne_minus _ _ (lt_pow_bytes (strNat (m + 1))) h.symm

theorem lower_cat_strNat (a n : Nat) : lower (cat a (strNat n)) = cat (lower a) (strNat n) :=
  lower_cat_of a _ (lower_strNat n)

/-- `symbol == element.symbol + str(A)` and `name == element.name + str(A)`, compared exactly: cheap to evaluate (no
lower-casing) and true of every isotope that does not carry a special name -/
def Iso.spelledAfterElement (i : Iso) : Bool :=
  i.base.sym.beq (cat i.parent.sym (strNat i.a)) && i.base.name.beq (cat i.parent.name (strNat i.a))

/-- such an isotope's own two index keys coincide with the two built from its element -/
theorem Iso.lower_of_spelledAfterElement {i : Iso} (h : i.spelledAfterElement = true) :
    lower i.base.sym = cat (lower i.parent.sym) (strNat i.a) ∧
    lower i.base.name = cat (lower i.parent.name) (strNat i.a) := by
  simp only [Iso.spelledAfterElement, Bool.and_eq_true, nbeq] at h
  exact ⟨h.1 ▸ lower_cat_strNat _ _, h.2 ▸ lower_cat_strNat _ _⟩

/-- `str(n).lower() == str(n)` for every int -/
theorem lower_strInt (n : Int) : lower (strInt n) = strInt n := by
  cases n with
  | ofNat n => exact lower_strNat n
  | negSucc n =>
    have h45 : lower 45 = 45 := by decide
    exact (lower_cat_strNat 45 (n + 1)).trans (by rw [h45]; rfl)

theorem cat_mod_256 (a : Nat) {b : Nat} (hb : b ≠ 0) : cat a b % 256 = b % 256 := by
  have : bytes b = b.log2 / 8 + 1 := by simp [bytes, nbeq_false hb]
  rw [cat, this, pow_succ, ← Nat.mul_assoc, Nat.mul_add_mod_self_right]

theorem cat_strNat_last (a n : Nat) : endsInDigit (cat a (strNat n)) = true := by
  rw [endsInDigit, cat_mod_256 a (strNat_pos n).ne']
  exact strNat_last n

theorem strInt_last (n : Int) : endsInDigit (strInt n) = true := by
  cases n with
  | ofNat n => exact strNat_last n
  | negSucc n => exact cat_strNat_last 45 (n + 1)

theorem lowerByte_lt {b : Nat} (h : b < 256) : lowerByte b < 256 := by
  rw [lowerByte_eq]; split <;> omega

theorem lowerByte_idem (b : Nat) : lowerByte (lowerByte b) = lowerByte b := by
  rw [lowerByte_eq b]
  split
  · rw [lowerByte_eq, if_neg (by omega)]
  · rw [lowerByte_eq, if_neg ‹_›]

theorem lowerAux_lt : ∀ (f n : Nat), lowerAux f n < 256 ^ f
  | 0, _ => by simp [lowerAux]
  | f + 1, n => by
    have h1 := lowerAux_lt f (n / 256)
    have h2 : lowerByte (n % 256) < 256 := lowerByte_lt (Nat.mod_lt _ (by norm_num))
    rw [lowerAux, pow_succ]
    omega

theorem lowerAux_idem : ∀ (f n : Nat), lowerAux f (lowerAux f n) = lowerAux f n
  | 0, _ => rfl
  | f + 1, n => by
    show lowerAux (f + 1) (lowerAux f (n / 256) * 256 + lowerByte (n % 256)) = _
    rw [lowerAux_snoc f _ (lowerByte_lt (Nat.mod_lt _ (by norm_num))), lowerAux_idem f, lowerByte_idem]
    rfl

/-- **`s.lower().lower() == s.lower()`** on codes -/
theorem lower_idem (s : Nat) : lower (lower s) = lower s := by
  unfold lower
  have h1 : lowerAux (bytes s) s < 256 ^ bytes s := lowerAux_lt _ _
  rw [lowerAux_fuel_irrel (lt_pow_bytes _) h1]
  exact lowerAux_idem _ _

end Cherab.Registry
