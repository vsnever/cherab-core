import Cherab.Model.Admt
import Cherab.Lemmas.Basic
import Mathlib.Tactic.Ring
import Mathlib.Tactic.FieldSimp
import Mathlib.Tactic.NormNum
import Mathlib.Algebra.Order.Ring.Abs
import Mathlib.Algebra.Order.Ring.Cast
import Mathlib.Algebra.BigOperators.Ring.List

/-!
# C20 — lemmas about the model of `admt_utils.py`

* the first-order jet algebra used to *define* `div(D ∇f)` (`specDiv`), and its coefficients as a linear form in the
  derivatives of `f` (`specCoeffs`, `specDiv_eq`) — independent of the model;
* boundary classes of a cell and the lookups that succeed in each (`Cls`, `Cls.has`);
* the discrete view of a row table: integer coefficients ×4 and their moments `Σ w·Δixᵃ·Δiyᵇ` (decidable), and the
  transfer from it to any field of characteristic 0 (`val_eq_coef4`, `applyStencil_quadratic`);
* the moments of the generated rows in all nine boundary classes, by kernel evaluation (`factsB_all` → `stencil_facts`,
  `boundaryB_all` → `boundary_facts`);
* on the documented layout `fullCells` the dictionary lookup in closed form (`lookup_full`) and the dense row times a
  vector as the stencil sum of the cell's boundary class (`dense_dot_eq_stencil`);
* linearity of `dotN`; the steps `np.min(abs(diff[≠ 0]))` extracts from the centres of a full grid (`extractSteps_full`).
-/
namespace Cherab.Admt

/-- first-order jet of a function of `(x, y)` at a point: value, ∂/∂x, ∂/∂y -/
structure Jet (α : Type) where
  v : α
  x : α
  y : α

namespace Jet
variable {α : Type} [Field α]
def const (c : α) : Jet α := ⟨c, 0, 0⟩
instance : Add (Jet α) := ⟨fun a b => ⟨a.v + b.v, a.x + b.x, a.y + b.y⟩⟩
instance : Sub (Jet α) := ⟨fun a b => ⟨a.v - b.v, a.x - b.x, a.y - b.y⟩⟩
/-- Leibniz rule -/
instance : Mul (Jet α) := ⟨fun a b => ⟨a.v * b.v, a.x * b.v + a.v * b.x, a.y * b.v + a.v * b.y⟩⟩
/-- quotient rule -/
instance : Div (Jet α) :=
  ⟨fun a b => ⟨a.v / b.v, (a.x * b.v - a.v * b.x) / (b.v * b.v), (a.y * b.v - a.v * b.y) / (b.v * b.v)⟩⟩
theorem add_def (a b : Jet α) : a + b = ⟨a.v + b.v, a.x + b.x, a.y + b.y⟩ := rfl
theorem sub_def (a b : Jet α) : a - b = ⟨a.v - b.v, a.x - b.x, a.y - b.y⟩ := rfl
theorem mul_def (a b : Jet α) : a * b = ⟨a.v * b.v, a.x * b.v + a.v * b.x, a.y * b.v + a.v * b.y⟩ := rfl
theorem div_def (a b : Jet α) :
    a / b = ⟨a.v / b.v, (a.x * b.v - a.v * b.x) / (b.v * b.v), (a.y * b.v - a.v * b.y) / (b.v * b.v)⟩ := rfl

theorem div_add_div_same (X Y N : Jet α) : X / N + Y / N = (X + Y) / N := by
  simp only [div_def, add_def, mk.injEq]
  exact ⟨by ring, by ring, by ring⟩

theorem div_sub_div_same (X Y N : Jet α) : X / N - Y / N = (X - Y) / N := by
  simp only [div_def, sub_def, mk.injEq]
  exact ⟨by ring, by ring, by ring⟩

theorem mul_div_assoc (A X N : Jet α) (h : N.v ≠ 0) : A * (X / N) = A * X / N := by
  simp only [div_def, mul_def, mk.injEq]
  refine ⟨by ring, ?_, ?_⟩
  · field_simp; ring
  · field_simp; ring

/-- the quotient rule as the source applies it to two tensor components `T / N`, `S / N` over `N = |∇ψ|²`, with the
toroidal term: `(T/N)/R + ∂ₓ(T/N) + ∂_y(S/N)` as one fraction over `N` (the part with `∂N` is the source's
`dnorm_term`, the last summand its `toroidal_term`) -/
theorem quotient_rule (T S N : Jet α) (R : α) (h : N.v ≠ 0) :
    (T / N).v / R + (T / N).x + (S / N).y =
      (T.x + S.y - (T.v * N.x + S.v * N.y) / N.v + T.v / N.v / R * N.v) / N.v := by
  simp only [div_def]
  field_simp
  ring

theorem one_sub_div (X Y : Jet α) (h : (X + Y).v ≠ 0) :
    const 1 - X / (X + Y) = Y / (X + Y) ∧ const 1 - Y / (X + Y) = X / (X + Y) := by
  simp only [add_def] at h
  simp only [div_def, sub_def, add_def, const, mk.injEq]
  exact ⟨⟨by field_simp; ring, by ring, by ring⟩, ⟨by field_simp; ring, by ring, by ring⟩⟩

theorem par_add_perp (D n : Jet α) : D * (const 1 - n) + D * n = D := by
  rcases D with ⟨d, dx, dy⟩
  rcases n with ⟨n, nx, ny⟩
  simp only [mul_def, sub_def, add_def, const, mk.injEq]
  exact ⟨by ring, by ring, by ring⟩

theorem sub_self (a : Jet α) : a - a = const 0 := by
  simp only [sub_def, _root_.sub_self, const]
end Jet

variable {α : Type} [Field α]

/-- **Specification.**  `div(T ∇f)` in cylindrical coordinates `(x, y) = (R, Z)`:
`(1/R) ∂ₓ(R Fₓ) + ∂_y F_y`, `F = T ∇f`, with the field-aligned diffusion tensor
`T = D∥ (I − n nᵀ) + D⊥ n nᵀ`, `n = ∇ψ / |∇ψ|` (so `n nᵀ = ∇ψ ∇ψᵀ / |∇ψ|²`; in two dimensions `I − n nᵀ = t tᵀ`).
Inputs: the first and second derivatives of ψ and of `f` at the point, the jets of `D⊥`, `D∥`, and `R`. -/
def specDiv (ψx ψy ψxx ψxy ψyy : α) (Dperp Dpar : Jet α) (R : α) (fx fy fxx fxy fyy : α) : α :=
  let px : Jet α := ⟨ψx, ψxx, ψxy⟩
  let py : Jet α := ⟨ψy, ψxy, ψyy⟩
  let N := px * px + py * py
  let nxx := px * px / N
  let nxy := px * py / N
  let nyy := py * py / N
  let one : Jet α := Jet.const 1
  let Txx := Dpar * (one - nxx) + Dperp * nxx
  let Txy := Dperp * nxy - Dpar * nxy
  let Tyy := Dpar * (one - nyy) + Dperp * nyy
  let jfx : Jet α := ⟨fx, fxx, fxy⟩
  let jfy : Jet α := ⟨fy, fxy, fyy⟩
  let Rj : Jet α := ⟨R, 1, 0⟩
  let Fx := Txx * jfx + Txy * jfy
  let Fy := Txy * jfx + Tyy * jfy
  (Rj * Fx).x / R + Fy.y

/-- `specDiv` is linear in the derivatives of `f`; these are its coefficients, read off the jets of the tensor
(`cxy` is half the coefficient of `fxy`, as in the source). -/
def specCoeffs (ψx ψy ψxx ψxy ψyy : α) (Dperp Dpar : Jet α) (R : α) : Coeffs α :=
  let px : Jet α := ⟨ψx, ψxx, ψxy⟩
  let py : Jet α := ⟨ψy, ψxy, ψyy⟩
  let N := px * px + py * py
  let nxx := px * px / N
  let nxy := px * py / N
  let nyy := py * py / N
  let one : Jet α := Jet.const 1
  let Txx := Dpar * (one - nxx) + Dperp * nxx
  let Txy := Dperp * nxy - Dpar * nxy
  let Tyy := Dpar * (one - nyy) + Dperp * nyy
  ⟨Txx.v / R + Txx.x + Txy.y, Txy.v / R + Txy.x + Tyy.y, Txx.v, Txy.v, Tyy.v⟩

theorem divFlux (Txx Txy Tyy : Jet α) (R fx fy fxx fxy fyy : α) (hR : R ≠ 0) :
    ((⟨R, 1, 0⟩ : Jet α) * (Txx * ⟨fx, fxx, fxy⟩ + Txy * ⟨fy, fxy, fyy⟩)).x / R
        + (Txy * ⟨fx, fxx, fxy⟩ + Tyy * ⟨fy, fxy, fyy⟩).y =
      (Txx.v / R + Txx.x + Txy.y) * fx + (Txy.v / R + Txy.x + Tyy.y) * fy
        + Txx.v * fxx + 2 * Txy.v * fxy + Tyy.v * fyy := by
  simp only [Jet.mul_def, Jet.add_def]
  rw [add_div, mul_div_cancel_left₀ _ hR]
  ring

theorem specDiv_eq {ψx ψy ψxx ψxy ψyy : α} {Dperp Dpar : Jet α} {R fx fy fxx fxy fyy : α} (hR : R ≠ 0) :
    specDiv ψx ψy ψxx ψxy ψyy Dperp Dpar R fx fy fxx fxy fyy =
      (specCoeffs ψx ψy ψxx ψxy ψyy Dperp Dpar R).cx * fx + (specCoeffs ψx ψy ψxx ψxy ψyy Dperp Dpar R).cy * fy
        + (specCoeffs ψx ψy ψxx ψxy ψyy Dperp Dpar R).cxx * fxx
        + 2 * (specCoeffs ψx ψy ψxx ψxy ψyy Dperp Dpar R).cxy * fxy
        + (specCoeffs ψx ψy ψxx ψxy ψyy Dperp Dpar R).cyy * fyy :=
  divFlux _ _ _ R fx fy fxx fxy fyy hR

/-- where `∇ψ ≠ 0` the three components of the tensor are fractions over `|∇ψ|²` (using `1 − ψₓ²/|∇ψ|² = ψ_y²/|∇ψ|²`):
the form the source differentiates -/
theorem specCoeffs_eq {ψx ψy ψxx ψxy ψyy : α} {Dperp Dpar : Jet α} {R : α} (hN : ψx * ψx + ψy * ψy ≠ 0) :
    specCoeffs ψx ψy ψxx ψxy ψyy Dperp Dpar R =
      let px : Jet α := ⟨ψx, ψxx, ψxy⟩
      let py : Jet α := ⟨ψy, ψxy, ψyy⟩
      let N := px * px + py * py
      let Txx := (Dpar * (py * py) + Dperp * (px * px)) / N
      let Txy := (Dperp * (px * py) - Dpar * (px * py)) / N
      let Tyy := (Dpar * (px * px) + Dperp * (py * py)) / N
      ⟨Txx.v / R + Txx.x + Txy.y, Txy.v / R + Txy.x + Tyy.y, Txx.v, Txy.v, Tyy.v⟩ := by
  have h : ((⟨ψx, ψxx, ψxy⟩ : Jet α) * ⟨ψx, ψxx, ψxy⟩ + ⟨ψy, ψxy, ψyy⟩ * ⟨ψy, ψxy, ψyy⟩).v ≠ 0 := hN
  simp only [specCoeffs]
  rw [(Jet.one_sub_div _ _ h).1, (Jet.one_sub_div _ _ h).2]
  simp only [Jet.mul_div_assoc _ _ _ h, Jet.div_add_div_same, Jet.div_sub_div_same]

/-- `D⊥ = D∥ = D`: the coefficients of `(1/R) ∂ₓ(R D ∂ₓf) + ∂_y(D ∂_y f)`, whatever the flux map -/
theorem specCoeffs_isotropic (ψx ψy ψxx ψxy ψyy : α) (D : Jet α) (R : α) :
    specCoeffs ψx ψy ψxx ψxy ψyy D D R = ⟨D.v / R + D.x, D.y, D.v, 0, D.v⟩ := by
  simp only [specCoeffs, Jet.par_add_perp, Jet.sub_self]
  simp only [Jet.const, zero_div, add_zero, zero_add]

end Cherab.Admt

namespace Cherab.Admt
open Cherab.Gen.Admt

/-- which of the four axis neighbours of a cell are missing (`at_left, at_right, at_top, at_bottom`) -/
structure Cls where
  l : Bool
  r : Bool
  t : Bool
  b : Bool
  deriving DecidableEq, Repr

/-- the lookups that succeed for a cell of class `c` of a full rectangular grid -/
def Cls.has (c : Cls) : Pos → Bool
  | .self => true | .left => !c.l | .right => !c.r | .above => !c.t | .below => !c.b
  | .aboveLeft => !c.t && !c.l | .aboveRight => !c.t && !c.r
  | .belowLeft => !c.b && !c.l | .belowRight => !c.b && !c.r

/-- at least two columns and two rows: a cell is not on both opposite edges -/
def Cls.valid (c : Cls) : Bool := !(c.l && c.r) && !(c.t && c.b)
def Cls.interior (c : Cls) : Bool := !c.l && !c.r && !c.t && !c.b

def allCls : List Cls :=
  [false, true].flatMap fun l => [false, true].flatMap fun r => [false, true].flatMap fun t =>
    [false, true].map fun b => ⟨l, r, t, b⟩

theorem mem_allCls (c : Cls) : c ∈ allCls := by
  rcases c with ⟨l, r, t, b⟩
  cases l <;> cases r <;> cases t <;> cases b <;> decide

theorem Op5.mem_all (op : Op5) : op ∈ Op5.all := by cases op <;> decide
theorem Pos.mem_all (p : Pos) : p ∈ Pos.all := by cases p <;> decide

/-- rows generated for a cell of class `c` -/
def stencil (c : Cls) : Option Table := runProgram program c.has

def coef4 (t : Table) (op : Op5) (p : Pos) : Int :=
  match t op p with
  | some c => c.num * ((4 / c.den : Nat) : Int)
  | none => 0

def denOK (t : Table) (op : Op5) (p : Pos) : Bool :=
  match t op p with
  | some c => c.den == 1 || c.den == 2 || c.den == 4
  | none => true

/-- `4 · Σ_p w_p · Δixᵃ · Δiyᵇ` -/
def mom (t : Table) (op : Op5) (a b : Nat) : Int :=
  Pos.all.foldl (fun s p => s + coef4 t op p * p.off.1 ^ a * p.off.2 ^ b) 0

/-- all six moments up to order two, ×4: `[m00, m10, m01, m20, m11, m02]` -/
def moms (t : Table) (op : Op5) : List Int :=
  [mom t op 0 0, mom t op 1 0, mom t op 0 1, mom t op 2 0, mom t op 1 1, mom t op 0 2]

section linear
variable {α : Type} [Field α]

/-! `psum` and `dotN` are sums over a list: in that form additivity and homogeneity are the library's. -/

theorem foldl_ite_add_eq {ι : Type} (c : ι → Bool) (f : ι → α) (l : List ι) (a : α) :
    l.foldl (fun s j => if c j then s + f j else s) a = a + (l.map (fun j => if c j then f j else 0)).sum := by
  induction l generalizing a with
  | nil => simp
  | cons x xs ih =>
    simp only [List.foldl, ih, List.map, List.sum_cons]
    split_ifs <;> ring

theorem psum_eq_sum (f : Pos → α) : psum f = (Pos.all.map f).sum := by
  unfold psum; rw [foldl_add_eq, zero_add]

theorem dotN_eq_sum (n : Nat) (row v : Nat → α) :
    dotN n row v = ((List.range n).map fun j => row j * v j).sum := by
  unfold dotN; rw [foldl_add_eq, zero_add]

end linear

section field
variable {α : Type} [Field α]

theorem coefVal_eq (n : Int) (d : Nat) : (Coef.val ⟨n, d⟩ : α) = (n : α) / (d : α) := by
  unfold Coef.val
  simp only
  split_ifs with h
  · rw [Nat.cast_natAbs, abs_of_neg h]; push_cast; ring
  · rw [Nat.cast_natAbs, abs_of_nonneg (not_lt.mp h)]

theorem val_eq_coef4 [CharZero α] (t : Table) (op : Op5) (p : Pos) (h : denOK t op p = true) :
    (t.val op p : α) = (coef4 t op p : α) / 4 := by
  unfold Table.val coef4
  unfold denOK at h
  cases hc : t op p with
  | none => simp
  | some c =>
    rcases c with ⟨n, d⟩
    rw [hc] at h
    simp only [Bool.or_eq_true, beq_iff_eq] at h
    simp only [coefVal_eq]
    rcases h with (rfl | rfl) | rfl <;> push_cast <;> norm_num
    -- left: denominator 2, `n / 2 = n * 2 / 4`
    ring

theorem mom_cast (t : Table) (op : Op5) (a b : Nat) :
    ((mom t op a b : Int) : α) =
      psum (fun p => (coef4 t op p : α) * ((p.off.1 : Int) : α) ^ a * ((p.off.2 : Int) : α) ^ b) := by
  unfold mom
  rw [psum_eq_sum, foldl_add_eq, zero_add, ← eq_intCast (Int.castRingHom α), map_list_sum, List.map_map]
  simp only [Function.comp_def, eq_intCast, Int.cast_mul, Int.cast_pow]

def quad (a0 a1 a2 a3 a4 a5 X Y : α) : α := a0 + a1 * X + a2 * Y + a3 * X ^ 2 + a4 * (X * Y) + a5 * Y ^ 2

/-- **master formula**: a row applied to the samples of a quadratic `f` around the cell centre `(Xc, Yc)`
(neighbour `(Δix, Δiy)` sits at `(Xc + Δix·dx, Yc − Δiy·dy)`: `iy` grows downwards) in terms of the integer moments
of the row. -/
theorem applyStencil_quadratic [CharZero α] (t : Table) (op : Op5) (hd : ∀ p, denOK t op p = true)
    (dx dy Xc Yc a0 a1 a2 a3 a4 a5 : α) :
    applyStencil t op dx dy (fun di dj => quad a0 a1 a2 a3 a4 a5 (Xc + (di : α) * dx) (Yc - (dj : α) * dy)) =
      (quad a0 a1 a2 a3 a4 a5 Xc Yc * (mom t op 0 0 : α)
        + (a1 + 2 * a3 * Xc + a4 * Yc) * dx * (mom t op 1 0 : α)
        - (a2 + a4 * Xc + 2 * a5 * Yc) * dy * (mom t op 0 1 : α)
        + a3 * dx ^ 2 * (mom t op 2 0 : α) - a4 * (dx * dy) * (mom t op 1 1 : α)
        + a5 * dy ^ 2 * (mom t op 0 2 : α)) / (4 * scaleDen op dx dy) := by
  unfold applyStencil
  -- Taylor expansion of the quadratic around the centre, term by term a weighted monomial in the index offsets
  have h1 : (fun p : Pos => (t.val op p : α) * quad a0 a1 a2 a3 a4 a5 (Xc + ((p.off.1 : Int) : α) * dx)
        (Yc - ((p.off.2 : Int) : α) * dy)) =
      fun p => quad a0 a1 a2 a3 a4 a5 Xc Yc / 4 * ((coef4 t op p : α) * ((p.off.1 : Int) : α) ^ 0 * ((p.off.2 : Int) : α) ^ 0)
        + ((a1 + 2 * a3 * Xc + a4 * Yc) * dx / 4 * ((coef4 t op p : α) * ((p.off.1 : Int) : α) ^ 1 * ((p.off.2 : Int) : α) ^ 0)
        + (-(a2 + a4 * Xc + 2 * a5 * Yc) * dy / 4 * ((coef4 t op p : α) * ((p.off.1 : Int) : α) ^ 0 * ((p.off.2 : Int) : α) ^ 1)
        + (a3 * dx ^ 2 / 4 * ((coef4 t op p : α) * ((p.off.1 : Int) : α) ^ 2 * ((p.off.2 : Int) : α) ^ 0)
        + (-a4 * (dx * dy) / 4 * ((coef4 t op p : α) * ((p.off.1 : Int) : α) ^ 1 * ((p.off.2 : Int) : α) ^ 1)
        + a5 * dy ^ 2 / 4 * ((coef4 t op p : α) * ((p.off.1 : Int) : α) ^ 0 * ((p.off.2 : Int) : α) ^ 2))))) := by
    funext p
    rw [val_eq_coef4 t op p (hd p)]
    unfold quad
    ring
  rw [h1]
  simp only [mom_cast, psum_eq_sum, List.sum_map_add, List.sum_map_mul_left]
  ring

/-- positions where nothing was assigned do not see the field -/
theorem applyStencil_congr (t : Table) (op : Op5) (dx dy : α) (g g' : Int → Int → α)
    (h : ∀ p, t op p ≠ none → g p.off.1 p.off.2 = g' p.off.1 p.off.2) :
    applyStencil t op dx dy g = applyStencil t op dx dy g' := by
  unfold applyStencil
  congr 2
  funext p
  by_cases hp : t op p = none
  · simp [Table.val, hp]
  · rw [h p hp]

end field

/-! ### what `decide` establishes about the generated program, for all boundary classes at once -/

/-- everything the theorems need to know about the rows `t` of a class-`c` cell -/
structure StencilFacts (c : Cls) (t : Table) : Prop where
  den : ∀ op ∈ Op5.all, ∀ p ∈ Pos.all, denOK t op p = true
  /-- nothing is written to a neighbour that does not exist -/
  absent : ∀ op ∈ Op5.all, ∀ p ∈ Pos.all, c.has p = false → t op p = none
  /-- all rows sum to zero -/
  m00 : ∀ op ∈ Op5.all, mom t op 0 0 = 0
  dx : mom t .Dx 1 0 = 4 ∧ mom t .Dx 0 1 = 0
  dy : mom t .Dy 1 0 = 0 ∧ mom t .Dy 0 1 = -4
  dxy : moms t .Dxy = [0, 0, 0, 0, -4, 0]
  interior : c.interior = true → moms t .Dx = [0, 4, 0, 0, 0, 0] ∧ moms t .Dy = [0, 0, -4, 0, 0, 0]
    ∧ moms t .Dxx = [0, 0, 0, 8, 0, 0] ∧ moms t .Dyy = [0, 0, 0, 0, 0, 8]

instance (c : Cls) (t : Table) : Decidable (StencilFacts c t) :=
  decidable_of_iff
    ((∀ op ∈ Op5.all, ∀ p ∈ Pos.all, denOK t op p = true)
      ∧ (∀ op ∈ Op5.all, ∀ p ∈ Pos.all, c.has p = false → t op p = none)
      ∧ (∀ op ∈ Op5.all, mom t op 0 0 = 0) ∧ (mom t .Dx 1 0 = 4 ∧ mom t .Dx 0 1 = 0)
      ∧ (mom t .Dy 1 0 = 0 ∧ mom t .Dy 0 1 = -4) ∧ (moms t .Dxy = [0, 0, 0, 0, -4, 0])
      ∧ (c.interior = true → moms t .Dx = [0, 4, 0, 0, 0, 0] ∧ moms t .Dy = [0, 0, -4, 0, 0, 0]
          ∧ moms t .Dxx = [0, 0, 0, 8, 0, 0] ∧ moms t .Dyy = [0, 0, 0, 0, 0, 8]))
    ⟨fun ⟨b, c', d, e, f, g, h⟩ => ⟨b, c', d, e, f, g, h⟩,
     fun ⟨b, c', d, e, f, g, h⟩ => ⟨b, c', d, e, f, g, h⟩⟩

def factsB (c : Cls) : Bool :=
  match stencil c with
  | some t => decide (StencilFacts c t)
  | none => false

/-- evaluated by the kernel on the generated program: all nine boundary classes -/
theorem factsB_all : ∀ c ∈ allCls, c.valid = true → factsB c = true := by decide +kernel

/-- rows exist (no `IndexError`) and have the listed properties, for every cell of a grid with ≥ 2 rows and columns -/
theorem stencil_facts {c : Cls} (hv : c.valid = true) : ∃ t, stencil c = some t ∧ StencilFacts c t := by
  have h := factsB_all c (mem_allCls c) hv
  unfold factsB at h
  split at h
  · next t ht => exact ⟨t, ht, of_decide_eq_true h⟩
  · exact absurd h (by simp)

/-- +1 in the first column, −1 in the last, 0 elsewhere: sign of the one-sided `x` difference -/
def Cls.sx (c : Cls) : Int := if c.l then 1 else if c.r then -1 else 0
/-- −1 in the top row, +1 in the bottom row (`y` decreases with `iy`) -/
def Cls.sy (c : Cls) : Int := if c.t then -1 else if c.b then 1 else 0

/-- all second-order moments of the first- and second-derivative rows, for every boundary class -/
structure BoundaryFacts (c : Cls) (t : Table) : Prop where
  dx : moms t .Dx = [0, 4, 0, 4 * c.sx, 0, 0]
  dy : moms t .Dy = [0, 0, -4, 0, 0, 4 * c.sy]
  dxx : moms t .Dxx = if c.sx = 0 then [0, 0, 0, 8, 0, 0] else [0, 4, 0, 4 * c.sx, 0, 0]
  dyy : moms t .Dyy = if c.sy = 0 then [0, 0, 0, 0, 0, 8] else [0, 0, -4, 0, 0, 4 * c.sy]

instance (c : Cls) (t : Table) : Decidable (BoundaryFacts c t) :=
  decidable_of_iff
    (moms t .Dx = [0, 4, 0, 4 * c.sx, 0, 0] ∧ moms t .Dy = [0, 0, -4, 0, 0, 4 * c.sy]
      ∧ moms t .Dxx = (if c.sx = 0 then [0, 0, 0, 8, 0, 0] else [0, 4, 0, 4 * c.sx, 0, 0])
      ∧ moms t .Dyy = (if c.sy = 0 then [0, 0, 0, 0, 0, 8] else [0, 0, -4, 0, 0, 4 * c.sy]))
    ⟨fun ⟨a, b, c', d⟩ => ⟨a, b, c', d⟩, fun ⟨a, b, c', d⟩ => ⟨a, b, c', d⟩⟩

def boundaryB (c : Cls) : Bool :=
  match stencil c with
  | some t => decide (BoundaryFacts c t)
  | none => false

/-- evaluated by the kernel on the generated program, all nine boundary classes -/
theorem boundaryB_all : ∀ c ∈ allCls, c.valid = true → boundaryB c = true := by decide +kernel

theorem boundary_facts {c : Cls} (hv : c.valid = true) {t : Table} (ht : stencil c = some t) :
    BoundaryFacts c t := by
  have h := boundaryB_all c (mem_allCls c) hv
  unfold boundaryB at h
  rw [ht] at h
  exact of_decide_eq_true h

section sums
variable {α : Type} [Field α]

theorem sum_swap {ι κ : Type} (L : List ι) (R : List κ) (F : ι → κ → α) :
    (R.map fun j => (L.map fun p => F p j).sum).sum = (L.map fun p => (R.map fun j => F p j).sum).sum := by
  induction L with
  | nil => simp
  | cons x xs ih => simp only [List.map, List.sum_cons, List.sum_map_add, ih]

theorem sum_range_single (n : Nat) (o : Option Nat) (w : α) (v : Nat → α) :
    ((List.range n).map fun j => (if o == some j then w else 0) * v j).sum =
      match o with
      | some j => if j < n then w * v j else 0
      | none => 0 := by
  cases o with
  | none => simp
  | some k =>
    -- only column `k` contributes, and it occurs once in `range n` or not at all
    rw [List.sum_map_eq_nsmul_single k, List.count_range, beq_self_eq_true, if_pos rfl]
    · split_ifs with hk <;> simp [hk]
    · intro j hj _
      rw [if_neg (by simpa using hj.symm), zero_mul]

/-- dense row × vector = sum over the stencil positions that have a column -/
theorem dense_dot (cells : List (Int × Int)) (c : Int × Int) (t : Table) (op : Op5) (dx dy : α) (n : Nat)
    (v : Nat → α) :
    dotN n (opEntry cells dx dy c t op) v =
      (Pos.all.map fun p => match neighbour cells c p with
        | some j => if j < n then t.val op p * v j else 0
        | none => 0).sum / scaleDen op dx dy := by
  rw [dotN_eq_sum]
  unfold opEntry rawEntry
  -- `v j` into the sum over the positions, the division out of the sum over the columns
  simp only [foldl_ite_add_eq, zero_add, div_mul_eq_mul_div, ← List.sum_map_mul_right]
  simp only [div_eq_mul_inv]
  rw [List.sum_map_mul_right, sum_swap]
  congr 2
  apply List.map_congr_left
  intro p _
  exact sum_range_single n _ _ v

end sums

theorem fullCells_length (nx ny : Nat) : (fullCells nx ny).length = nx * ny := by simp [fullCells]

theorem fullCells_get (nx ny k : Nat) (h : k < (fullCells nx ny).length) :
    (fullCells nx ny)[k] = (((k / ny : Nat) : Int), ((k % ny : Nat) : Int)) := by
  simp [fullCells]

theorem cell_bounds {nx ny k : Nat} (hk : k < nx * ny) : k / ny < nx ∧ k % ny < ny := by
  have hny : 0 < ny := Nat.pos_of_ne_zero fun h0 => by rw [h0, Nat.mul_zero] at hk; exact Nat.not_lt_zero _ hk
  exact ⟨(Nat.div_lt_iff_lt_mul hny).mpr hk, Nat.mod_lt _ hny⟩

theorem index_cell {ny b : Nat} (a : Nat) (hb : b < ny) : (a * ny + b) / ny = a ∧ (a * ny + b) % ny = b := by
  rw [Nat.mul_comm, Nat.mul_add_div (Nat.zero_lt_of_lt hb), Nat.mul_add_mod, Nat.div_eq_of_lt hb, Nat.mod_eq_of_lt hb]
  exact ⟨rfl, rfl⟩

theorem index_lt {nx ny a b : Nat} (ha : a < nx) (hb : b < ny) : a * ny + b < nx * ny :=
  calc a * ny + b < (a + 1) * ny := by rw [Nat.add_mul, Nat.one_mul]; exact Nat.add_lt_add_left hb _
    _ ≤ nx * ny := Nat.mul_le_mul_right _ ha

theorem lookup_full (nx ny : Nat) (jx jy : Int) :
    lookup (fullCells nx ny) jx jy =
      if 0 ≤ jx ∧ jx < nx ∧ 0 ≤ jy ∧ jy < ny then some (jx.toNat * ny + jy.toNat) else none := by
  unfold lookup
  split_ifs with h
  · obtain ⟨h1, h2, h3, h4⟩ := h
    obtain ⟨a, rfl⟩ := Int.eq_ofNat_of_zero_le h1
    obtain ⟨b, rfl⟩ := Int.eq_ofNat_of_zero_le h3
    have hb : b < ny := by exact_mod_cast h4
    have hlen : a * ny + b < (fullCells nx ny).length := by
      rw [fullCells_length]; exact index_lt (by exact_mod_cast h2) hb
    obtain ⟨e1, e2⟩ := index_cell a hb
    simp only [Int.toNat_natCast]
    rw [List.findIdx?_eq_some_iff_getElem]
    refine ⟨hlen, ?_, ?_⟩
    · rw [fullCells_get, e1, e2]; simp
    · intro j hj
      rw [fullCells_get nx ny j (by omega)]
      simp only [Bool.and_eq_true, beq_iff_eq, not_and, Int.natCast_inj]
      intro e1' e2'
      have := Nat.div_add_mod j ny
      rw [e1', e2', Nat.mul_comm] at this
      omega
  · rw [List.findIdx?_eq_none_iff]
    intro x hx
    obtain ⟨k, hk, rfl⟩ := List.getElem_of_mem hx
    rw [fullCells_length] at hk
    obtain ⟨hq, hr⟩ := cell_bounds hk
    rw [fullCells_get]
    by_contra hc
    rw [Bool.not_eq_false, Bool.and_eq_true, beq_iff_eq, beq_iff_eq] at hc
    apply h
    rw [← hc.1, ← hc.2]
    exact ⟨Int.natCast_nonneg _, Int.ofNat_lt.mpr hq, Int.natCast_nonneg _, Int.ofNat_lt.mpr hr⟩

theorem lookup_full_self {nx ny k : Nat} (hk : k < nx * ny) :
    lookup (fullCells nx ny) ((k / ny : Nat) : Int) ((k % ny : Nat) : Int) = some k := by
  obtain ⟨hx, hy⟩ := cell_bounds hk
  simp only [lookup_full, Int.natCast_nonneg, Int.ofNat_lt, hx, hy, and_self, if_true, Int.toNat_natCast,
    Nat.div_add_mod']

/-- boundary class of the cell `(ix, iy)` of the full `nx × ny` grid -/
def clsOf (nx ny ix iy : Nat) : Cls := ⟨ix == 0, ix + 1 == nx, iy == 0, iy + 1 == ny⟩

theorem clsOf_valid (nx ny ix iy : Nat) (h2x : 2 ≤ nx) (h2y : 2 ≤ ny) : (clsOf nx ny ix iy).valid = true := by
  simp only [Cls.valid, clsOf, Bool.and_eq_true, Bool.not_eq_true', Bool.and_eq_false_iff, beq_eq_false_iff_ne,
    ne_eq]
  omega

theorem isSome_ite {β : Type} (c : Prop) [Decidable c] (a : β) :
    (if c then some a else none).isSome = decide c := by
  split_ifs <;> simp [*]

theorem neighbour_full (nx ny ix iy : Nat) (p : Pos) :
    neighbour (fullCells nx ny) ((ix : Int), (iy : Int)) p =
      if 0 ≤ (ix : Int) + p.off.1 ∧ (ix : Int) + p.off.1 < nx ∧ 0 ≤ (iy : Int) + p.off.2 ∧ (iy : Int) + p.off.2 < ny
      then some (((ix : Int) + p.off.1).toNat * ny + ((iy : Int) + p.off.2).toNat) else none := by
  unfold neighbour; rw [lookup_full]

theorem hasOf_full {nx ny ix iy : Nat} (hx : ix < nx) (hy : iy < ny) :
    hasOf (fullCells nx ny) ((ix : Int), (iy : Int)) = (clsOf nx ny ix iy).has := by
  funext p
  unfold hasOf
  rw [neighbour_full, isSome_ite, Bool.eq_iff_iff, decide_eq_true_iff]
  cases p
  all_goals (simp only [Pos.off, Cls.has, clsOf]
             simp only [Bool.and_eq_true, Bool.not_eq_true', beq_eq_false_iff_ne, ne_eq, iff_true]
             omega)

section dense
variable {α : Type} [Field α]

/-- **dense = stencil** on the documented layout: the row of cell `(ix, iy)` of the dense operator times a vector is
the stencil sum over the 2-D neighbours; and the row table is the one of the cell's boundary class. -/
theorem dense_dot_eq_stencil (nx ny ix iy : Nat) (hx : ix < nx) (hy : iy < ny) (h2x : 2 ≤ nx) (h2y : 2 ≤ ny) :
    ∃ t, rowTable (fullCells nx ny) ((ix : Int), (iy : Int)) = some t ∧ StencilFacts (clsOf nx ny ix iy) t ∧
      ∀ (op : Op5) (dx dy : α) (v : Nat → α),
        dotN (nx * ny) (opEntry (fullCells nx ny) dx dy ((ix : Int), (iy : Int)) t op) v =
          applyStencil t op dx dy (fun di dj => v (((ix : Int) + di).toNat * ny + ((iy : Int) + dj).toNat)) := by
  obtain ⟨t, ht, hf⟩ := stencil_facts (clsOf_valid nx ny ix iy h2x h2y)
  refine ⟨t, ?_, hf, ?_⟩
  · unfold rowTable; rw [hasOf_full hx hy]; exact ht
  · intro op dx dy v
    rw [dense_dot, applyStencil, psum_eq_sum]
    congr 2
    apply List.map_congr_left
    intro p _
    have hhas : (neighbour (fullCells nx ny) ((ix : Int), (iy : Int)) p).isSome = (clsOf nx ny ix iy).has p :=
      congrFun (hasOf_full hx hy) p
    cases hn : neighbour (fullCells nx ny) ((ix : Int), (iy : Int)) p with
    | none =>
      -- a neighbour that does not exist: nothing was written there
      rw [hn] at hhas
      simp [Table.val, hf.absent op (Op5.mem_all op) p (Pos.mem_all p) hhas.symm]
    | some j =>
      rw [neighbour_full] at hn
      split_ifs at hn with hr
      obtain rfl := Option.some.inj hn
      simp [index_lt ((Int.toNat_lt hr.1).2 hr.2.1) ((Int.toNat_lt hr.2.2.1).2 hr.2.2.2)]

end dense

section
variable {α : Type} [Field α]

theorem dotN_entry (n : Nat) (cx cy cxx cxy cyy s : α) (A B C D E v : Nat → α) :
    dotN n (fun j => entry cx cy cxx cxy cyy (A j) (B j) (C j) (D j) (E j) * s) v =
      entry cx cy cxx cxy cyy (dotN n A v) (dotN n B v) (dotN n C v) (dotN n D v) (dotN n E v) * s := by
  simp only [dotN_eq_sum]
  induction List.range n with
  | nil => simp [entry]
  | cons x xs ih =>
    simp only [List.map, List.sum_cons, ih]
    unfold entry
    ring

theorem dotN_add (n : Nat) (row v w : Nat → α) :
    dotN n row (fun k => v k + w k) = dotN n row v + dotN n row w := by
  simp only [dotN_eq_sum, mul_add, List.sum_map_add]

theorem dotN_add_const (n : Nat) (row v : Nat → α) (c : α) :
    dotN n row (fun k => v k + c) = dotN n row v + dotN n row (fun _ => c) :=
  dotN_add n row v fun _ => c

theorem dotN_smul (n : Nat) (row v : Nat → α) (c : α) :
    dotN n row (fun k => c * v k) = c * dotN n row v := by
  simp only [dotN_eq_sum, mul_left_comm _ c, List.sum_map_mul_left]

theorem dotN_const_zero (n : Nat) (row : Nat → α) (c : α) (h : dotN n row (fun _ => 1) = 0) :
    dotN n row (fun _ => c) = 0 := by
  have := dotN_smul n row (fun _ => 1) c
  rw [h, mul_zero, mul_one] at this
  exact this

end

theorem diffs_map_range' {β : Type} [Sub β] (f : Nat → β) (s n : Nat) :
    diffs ((List.range' s n).map f) = (List.range' s (n - 1)).map fun k => f (k + 1) - f k := by
  induction n generalizing s with
  | zero => simp [diffs]
  | succ n ih =>
    cases n with
    | zero => simp [diffs, List.range']
    | succ m =>
      have := ih (s + 1)
      simp only [List.range', List.map, diffs] at this ⊢
      simp only [Nat.add_sub_cancel] at this ⊢
      rw [this]
      simp [List.range']

section extract
variable {α : Type} [Field α] [LinearOrder α] [IsStrictOrderedRing α]

theorem absA_eq (x : α) : absA x = |x| := by
  unfold absA
  split_ifs with h
  · exact (abs_of_neg h).symm
  · exact (abs_of_nonneg (not_lt.mp h)).symm

omit [IsStrictOrderedRing α] in
theorem minAbsNonzero_eq_min? (l : List α) :
    minAbsNonzero l = ((l.filter fun d => !(d == 0)).map absA).min? := by
  have hf : (fun m x : α => if x < m then x else m) = min := by
    funext m x
    simp only [min_def, ← not_lt (a := x), ite_not]
  unfold minAbsNonzero
  rw [hf]
  cases (l.filter fun d => !(d == 0)).map absA <;> rfl

/-- `np.min(abs(d[d != 0]))` returns `d` when every non-zero entry has modulus ≥ d and one attains it -/
theorem minAbsNonzero_eq (l : List α) (d : α) (hall : ∀ e ∈ l, e = 0 ∨ d ≤ |e|)
    (hex : ∃ e ∈ l, e ≠ 0 ∧ |e| = d) : minAbsNonzero l = some d := by
  rw [minAbsNonzero_eq_min?, List.min?_eq_some_iff]
  simp only [List.mem_map, List.mem_filter, Bool.not_eq_true', beq_eq_false_iff_ne, ne_eq, absA_eq, and_assoc]
  refine ⟨hex, ?_⟩
  rintro _ ⟨e, he, hne, rfl⟩
  exact (hall e he).resolve_left hne

theorem minAbsNonzero_lattice {l : List α} {d : α} (hd : 0 < d) (hall : ∀ e ∈ l, ∃ z : Int, e = z * d)
    (hex : d ∈ l ∨ -d ∈ l) : minAbsNonzero l = some d := by
  apply minAbsNonzero_eq
  · intro e he
    obtain ⟨z, rfl⟩ := hall e he
    rcases eq_or_ne z 0 with rfl | hz
    · left; rw [Int.cast_zero, zero_mul]
    · right
      rw [abs_mul, abs_of_pos hd, ← Int.cast_abs]
      exact le_mul_of_one_le_left hd.le (by exact_mod_cast Int.one_le_abs hz)
  · rcases hex with h | h
    · exact ⟨d, h, hd.ne', abs_of_pos hd⟩
    · exact ⟨-d, h, neg_ne_zero.mpr hd.ne', by rw [abs_neg, abs_of_pos hd]⟩

/-- centres of the voxels of the documented layout -/
def gridCentres (nx ny : Nat) (x0 y0 dx dy : α) : List (α × α) :=
  (List.range (nx * ny)).map fun k => (x0 + ((k / ny : Nat) : α) * dx, y0 - ((k % ny : Nat) : α) * dy)

/-- **dx, dy as the code extracts them** (`np.min(abs(np.diff(centres)[≠ 0]))`) are the grid's steps, whatever the
origin: with the operators' stencils not depending on coordinates at all, the generated operators depend on the
geometry only through `(dx, dy)`. -/
theorem extractSteps_full (nx ny : Nat) (h2x : 2 ≤ nx) (h2y : 2 ≤ ny) (x0 y0 dx dy : α) (hdx : 0 < dx)
    (hdy : 0 < dy) : extractSteps (gridCentres nx ny x0 y0 dx dy) = some (dx, dy) := by
  have hn : 2 * ny ≤ nx * ny := Nat.mul_le_mul_right _ h2x
  have em : ∀ (cs : List (α × α)) (k : Nat), evalS cs (.min (.abs (.nonzero (.diffCol k)))) =
      minAbsNonzero (evalV cs (.diffCol k)) := fun _ _ => rfl
  unfold extractSteps gridCentres
  simp only [Cherab.Gen.Admt.stepDx, Cherab.Gen.Admt.stepDy, em, evalV]
  simp only [List.map_map, Function.comp_def, List.range_eq_range', diffs_map_range']
  -- successive centres differ by integer multiples of the steps; the step itself occurs where the column changes
  -- (`x`, between voxels `n_y − 1` and `n_y`) and between the first two voxels (`y`); side conditions for `y` first
  rw [minAbsNonzero_lattice hdx, minAbsNonzero_lattice hdy]
  · intro e he
    obtain ⟨k, _, rfl⟩ := List.mem_map.mp he
    exact ⟨(k % ny : Nat) - ((k + 1) % ny : Nat), by rw [Int.cast_sub, Int.cast_natCast, Int.cast_natCast]; ring⟩
  · right
    refine List.mem_map.mpr ⟨0, List.mem_range'_1.mpr ⟨by omega, by omega⟩, ?_⟩
    rw [Nat.zero_add, Nat.mod_eq_of_lt (by omega : 1 < ny), Nat.zero_mod]
    push_cast; ring
  · intro e he
    obtain ⟨k, _, rfl⟩ := List.mem_map.mp he
    exact ⟨((k + 1) / ny : Nat) - (k / ny : Nat), by rw [Int.cast_sub, Int.cast_natCast, Int.cast_natCast]; ring⟩
  · left
    refine List.mem_map.mpr ⟨ny - 1, List.mem_range'_1.mpr ⟨by omega, by omega⟩, ?_⟩
    rw [Nat.sub_add_cancel (by omega), Nat.div_self (by omega), Nat.div_eq_of_lt (by omega)]
    push_cast; ring

/-- `np.mean` of the four vertices of an axis-aligned `dx × dy` voxel centred at `(h, k)` is `(h, k)` -/
theorem centre_rect (h k dx dy : α) :
    centre [(h + dx / 2, k + dy / 2), (h + dx / 2, k - dy / 2), (h - dx / 2, k - dy / 2), (h - dx / 2, k + dy / 2)]
      = (h, k) := by
  simp only [centre, List.foldl, List.length]
  push_cast
  rw [Prod.mk.injEq]
  constructor <;> ring

end extract
end Cherab.Admt
