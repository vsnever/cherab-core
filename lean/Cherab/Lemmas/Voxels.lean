import Cherab.Model.Voxels
import Cherab.Lemmas.Basic
import Mathlib.Tactic.Ring
import Mathlib.Data.List.Rotate
import Mathlib.Algebra.BigOperators.Ring.List
import Mathlib.Algebra.Order.BigOperators.Group.List

/-!
Helper lemmas for C17: sums of an edge functional over the closed edge list of a vertex list
(`esum`, the form in which the loops `accum` are reasoned about), open-path sums (`osum`): invariance under
rotation / reversal, telescoping, fan and split; sums of terms of one sign; when a mapped `Except` returns.
-/
namespace Cherab.Lemmas.Voxels
set_option linter.unusedSectionVars false
open Cherab.Voxels

variable {α : Type} [Field α] [LinearOrder α] [IsStrictOrderedRing α] {β γ : Type}

/-- the accumulation loops, as a sum -/
def esum (g : β → β → α) (l : List β) : α := ((edges l).map fun e => g e.1 e.2).sum

theorem accum_eq_esum (g : β → β → α) (l : List β) : accum g l = esum g l := by
  unfold accum esum
  rw [foldl_add_eq, zero_add]

theorem edges_eq (l : List β) : edges l = List.zipWith Prod.mk l (l.rotate 1) := by
  cases l with
  | nil => rfl
  | cons v vs => simp [edges, List.rotate_cons_succ, List.zip]

theorem edges_rotate (l : List β) (n : Nat) : edges (l.rotate n) = (edges l).rotate n := by
  rw [edges_eq, edges_eq, List.zipWith_rotate_distrib _ _ _ _ (by simp), List.rotate_rotate,
    List.rotate_rotate, Nat.add_comm]

theorem edges_reverse (l : List β) :
    edges l.reverse = ((edges (l.rotate (l.length - 1 % l.length))).map Prod.swap).reverse := by
  rw [edges_eq, edges_eq, List.rotate_reverse, ← List.reverse_zipWith (by simp)]
  congr 1
  rw [List.rotate_rotate]
  have hrot : l.rotate (l.length - 1 % l.length + 1) = l := by
    rcases Nat.lt_or_ge l.length 2 with h | h
    · match l, h with
      | [], _ => simp
      | [a], _ => simp
    · rw [Nat.mod_eq_of_lt (by omega), Nat.sub_add_cancel (by omega), List.rotate_length]
  rw [hrot, List.map_zipWith]
  rw [List.zipWith_comm]
  rfl

theorem edges_map (φ : β → γ) (l : List β) : edges (l.map φ) = (edges l).map (Prod.map φ φ) := by
  cases l with
  | nil => rfl
  | cons v vs =>
    simp only [edges, List.map_cons]
    rw [show List.map φ vs ++ [φ v] = List.map φ (vs ++ [v]) by simp, ← List.map_cons, List.zip_map]

theorem esum_congr (g h : β → β → α) (l : List β) (e : ∀ p q, g p q = h p q) : esum g l = esum h l := by
  have : g = h := by funext p q; exact e p q
  rw [this]

theorem esum_add (g h : β → β → α) (l : List β) :
    esum (fun p q => g p q + h p q) l = esum g l + esum h l :=
  List.sum_map_add

theorem esum_smul (c : α) (g : β → β → α) (l : List β) :
    esum (fun p q => c * g p q) l = c * esum g l :=
  List.sum_map_mul_left _ _ _

theorem esum_map (g : γ → γ → α) (φ : β → γ) (l : List β) :
    esum g (l.map φ) = esum (fun p q => g (φ p) (φ q)) l := by
  unfold esum
  rw [edges_map, List.map_map]
  rfl

theorem esum_rotate (g : β → β → α) (l : List β) (n : Nat) : esum g (l.rotate n) = esum g l := by
  unfold esum
  rw [edges_rotate]
  exact ((List.rotate_perm _ n).map _).sum_eq

theorem esum_reverse (g : β → β → α) (l : List β) : esum g l.reverse = esum (fun p q => g q p) l := by
  rw [← esum_rotate (fun p q => g q p) l (l.length - 1 % l.length)]
  unfold esum
  rw [edges_reverse, List.map_reverse, List.sum_reverse, List.map_map]
  rfl

theorem accum_rotate (g : β → β → α) (l : List β) (n : Nat) : accum g (l.rotate n) = accum g l := by
  rw [accum_eq_esum, accum_eq_esum, esum_rotate]

/-- sum of the functional along the open path `l` -/
def osum (g : β → β → α) : List β → α
  | a :: b :: r => g a b + osum g (b :: r)
  | _ => 0

theorem osum_append (g : β → β → α) (a : β) (A : List β) (x : β) (B : List β) :
    osum g (a :: (A ++ x :: B)) = osum g (a :: (A ++ [x])) + osum g (x :: B) := by
  induction A generalizing a with
  | nil => simp only [List.nil_append, osum, add_zero]
  | cons b A ih => simp only [List.cons_append, osum, ih b, add_assoc]

theorem sum_zip_eq_osum (g : β → β → α) (a : β) (l : List β) (x : β) :
    (((a :: l).zip (l ++ [x])).map fun e => g e.1 e.2).sum = osum g (a :: (l ++ [x])) := by
  induction l generalizing a with
  | nil => simp [osum]
  | cons b l ih =>
    simp only [List.cons_append, List.zip_cons_cons, List.map_cons, List.sum_cons, osum, ih b]

theorem esum_cons (g : β → β → α) (v : β) (vs : List β) : esum g (v :: vs) = osum g (v :: (vs ++ [v])) :=
  sum_zip_eq_osum g v vs v

theorem osum_telescope (H : β → α) (a : β) (l : List β) (x : β) :
    osum (fun p q => H q - H p) (a :: (l ++ [x])) = H x - H a := by
  induction l generalizing a with
  | nil => simp only [List.nil_append, osum, add_zero]
  | cons b l ih => simp only [List.cons_append, osum, ih b, sub_add_sub_cancel']

theorem esum_telescope (H : β → α) : ∀ l : List β, esum (fun p q => H q - H p) l = 0
  | [] => rfl
  | v :: vs => by rw [esum_cons, osum_telescope, sub_self]

theorem esum_eq_of_telescope (g g' : β → β → α) (H : β → α) (h : ∀ p q, g' p q = g p q + (H q - H p))
    (l : List β) : esum g' l = esum g l := by
  rw [esum_congr g' _ l h, esum_add, esum_telescope, add_zero]

/-- fan around `a`: Σ over consecutive pairs `(p,q)` of `l` of `T a p q` -/
def fanSum (T : β → β → β → α) (a : β) : List β → α
  | p :: q :: r => T a p q + fanSum T a (q :: r)
  | _ => 0

theorem fanSum_congr (T T' : β → β → β → α) (h : ∀ a p q, T a p q = T' a p q) (a : β) (l : List β) :
    fanSum T a l = fanSum T' a l := by
  have : T = T' := by funext a p q; exact h a p q
  rw [this]

theorem fanSum_smul (c : α) (T : β → β → β → α) (a : β) :
    ∀ l : List β, fanSum (fun a p q => c * T a p q) a l = c * fanSum T a l
  | [] | [_] => (mul_zero c).symm
  | p :: q :: r => by simp only [fanSum, fanSum_smul c T a (q :: r), mul_add]

section antisymmetric
variable (g : β → β → α) (hanti : ∀ p q, g q p = - g p q)
include hanti

theorem accum_reverse_anti (l : List β) : accum g l.reverse = - accum g l := by
  rw [accum_eq_esum, accum_eq_esum, esum_reverse,
    esum_congr _ (fun p q => -1 * g p q) l (fun p q => by rw [hanti, neg_one_mul]), esum_smul, neg_one_mul]

theorem fan_aux (a p : β) (r : List β) :
    g a p + osum g (p :: (r ++ [a])) = fanSum (fun a p q => g a p + g p q + g q a) a (p :: r) := by
  induction r generalizing p with
  | nil => simp only [List.nil_append, osum, fanSum, hanti p a, add_zero, neg_add_cancel]
  | cons q r ih =>
    simp only [List.cons_append, osum, fanSum]
    rw [← ih q, hanti a q]
    ring

theorem accum_fan (a : β) (l : List β) :
    accum g (a :: l) = fanSum (fun a p q => g a p + g p q + g q a) a l := by
  rw [accum_eq_esum, esum_cons]
  cases l with
  | nil =>
    have : g a a = 0 := self_eq_neg.mp (hanti a a)
    simp only [List.nil_append, osum, fanSum, this, add_zero]
  | cons p r => exact fan_aux g hanti a p r

/-- the diagonal `(a, b)` is run through once in each direction, so its two terms cancel by antisymmetry -/
theorem accum_split (a b : β) (Q R : List β) :
    accum g (a :: Q ++ b :: R) = accum g (a :: Q ++ [b]) + accum g (a :: b :: R) := by
  simp only [accum_eq_esum, List.cons_append, esum_cons, List.append_assoc, List.nil_append]
  rw [osum_append g a Q b (R ++ [a]), osum_append g a Q b [a]]
  simp only [osum, hanti a b]
  ring

end antisymmetric

theorem sum_nonpos (l : List α) (h : ∀ x ∈ l, x ≤ 0) : l.sum ≤ 0 :=
  List.sum_nonneg (M := αᵒᵈ) h

theorem sum_abs_of_same_sign {ι : Type} (t : List ι) (f : ι → α)
    (h : (∀ i ∈ t, f i ≤ 0) ∨ (∀ i ∈ t, 0 ≤ f i)) : (t.map fun i => |f i|).sum = |(t.map f).sum| := by
  rcases h with h | h
  · rw [abs_of_nonpos (sum_nonpos _ (List.forall_mem_map.mpr h)), List.sum_neg, List.map_map]
    exact congrArg List.sum (List.map_congr_left fun i hi => abs_of_nonpos (h i hi))
  · rw [abs_of_nonneg (List.sum_nonneg (List.forall_mem_map.mpr h))]
    exact congrArg List.sum (List.map_congr_left fun i hi => abs_of_nonneg (h i hi))

/-- a non-negatively weighted sum of terms of one sign has the sign of their plain sum -/
theorem sum_mul_sum_nonneg {ι : Type} (t : List ι) (w f : ι → α) (hw : ∀ i ∈ t, 0 ≤ w i)
    (h : (∀ i ∈ t, f i ≤ 0) ∨ (∀ i ∈ t, 0 ≤ f i)) :
    0 ≤ (t.map fun i => w i * f i).sum * (t.map f).sum := by
  rcases h with h | h
  · exact mul_nonneg_of_nonpos_of_nonpos
      (sum_nonpos _ (List.forall_mem_map.mpr fun i hi => mul_nonpos_of_nonneg_of_nonpos (hw i hi) (h i hi)))
      (sum_nonpos _ (List.forall_mem_map.mpr h))
  · exact mul_nonneg (List.sum_nonneg (List.forall_mem_map.mpr fun i hi => mul_nonneg (hw i hi) (h i hi)))
      (List.sum_nonneg (List.forall_mem_map.mpr h))

theorem map_eq_ok_iff {ε : Type} (f : β → γ) (x : Except ε β) (s : γ) :
    x.map f = .ok s ↔ ∃ l, x = .ok l ∧ s = f l := by
  cases x with
  | error e => exact ⟨nofun, nofun⟩
  | ok l => exact ⟨fun h => ⟨l, rfl, (Except.ok.inj h).symm⟩, fun ⟨_, hl, hs⟩ => Except.ok.inj hl ▸ hs ▸ rfl⟩

end Cherab.Lemmas.Voxels
