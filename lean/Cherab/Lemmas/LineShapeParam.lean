/-
C02 — helpers for `Props/C02Param.lean`: the component list of `ParametrisedZeemanTriplet.add_line` (zeeman.pyx:219)
consists of Gaussian components of non-negative radiance and positive width.
-/
import Cherab.Lemmas.LineShape

namespace Cherab.Lemmas.LineShape
set_option linter.unusedSectionVars false
open Cherab.LineShape

variable {α : Type} [Field α] [LinearOrder α] [IsStrictOrderedRing α]

theorem one_le_sqrt_of_spec {sqrt : α → α} (hs : SqrtSpec sqrt) {t : α} (ht : 1 ≤ t) : 1 ≤ sqrt t := by
  obtain ⟨h0, h1⟩ := hs t (zero_le_one.trans ht)
  by_contra hlt
  exact not_lt.mpr ht (h1 ▸ mul_lt_one_of_nonneg_of_lt_one_left h0 (not_le.mp hlt) (not_le.mp hlt).le)

variable {F : Fns α} (hs : SqrtSpec F.sqrt) {K : Consts α} (hK : ConstsPos K) {be ga : α} {e : Env α}
  (hwl : 0 < e.wl) (haw : 0 < e.aw) (hts : 0 < e.ts) (hp : 0 ≤ F.pow e.ts (2.0 * ga))
include hs hp

/-- the broadening factor `sqrt(1 + β² T^(2γ))` of zeeman.pyx:237 is at least 1 as soon as the `pow` value is non-negative
(whatever the sign of `beta`, `gamma`) -/
theorem paramZeeman_factor_ge_one : 1 ≤ F.sqrt (1.0 + be * be * F.pow e.ts (2.0 * ga)) := by
  apply one_le_sqrt_of_spec hs
  rw [lit10]
  exact le_add_of_nonneg_right (mul_nonneg (mul_self_nonneg be) hp)

include hK hwl haw hts

theorem paramZeeman_width_ge_thermal :
    thermalBroadening F K e.wl e.ts e.aw ≤
      thermalBroadening F K e.wl e.ts e.aw * F.sqrt (1.0 + be * be * F.pow e.ts (2.0 * ga)) :=
  le_mul_of_one_le_right (thermal_pos F hs K hK e.wl e.ts e.aw hwl hts haw).le (paramZeeman_factor_ge_one hs hp)

theorem paramZeeman_width_pos :
    0 < thermalBroadening F K e.wl e.ts e.aw * F.sqrt (1.0 + be * be * F.pow e.ts (2.0 * ga)) :=
  (thermal_pos F hs K hK e.wl e.ts e.aw hwl hts haw).trans_le (paramZeeman_width_ge_thermal hs hK hwl haw hts hp)

theorem paramZeeman_good {al R : α} (pol : Pol) (hR : 0 ≤ R) : GoodComps (paramZeemanComps F K al be ga pol R e) :=
  tripletShape_good hs e pol hR (paramZeeman_width_pos hs hK hwl haw hts hp)

end Cherab.Lemmas.LineShape
