namespace Inval

structure Proto (P C : Type) where
  deps   : C → List P
  clears : P → List C

structure St (P C : Type) where
  ver   : P → Nat
  cache : C → Option (P → Nat)

inductive Op (P C : Type) where
  | set (p : P)
  | obs (c : C)

variable {P C : Type} [DecidableEq P] [DecidableEq C]

def init : St P C := { ver := fun _ => 0, cache := fun _ => none }

def setP (pr : Proto P C) (s : St P C) (p : P) : St P C :=
  { ver := fun q => if q = p then s.ver q + 1 else s.ver q,
    cache := fun c => if c ∈ pr.clears p then none else s.cache c }

def fill (s : St P C) (c : C) : St P C :=
  match s.cache c with
  | some _ => s
  | none => { s with cache := fun d => if d = c then some s.ver else s.cache d }

def view (pr : Proto P C) (s : St P C) (c : C) : List Nat :=
  match s.cache c with
  | some snap => (pr.deps c).map snap
  | none => (pr.deps c).map s.ver

def step (pr : Proto P C) (s : St P C) : Op P C → St P C × Option (List Nat)
  | .set p => (setP pr s p, none)
  | .obs c => let s' := fill s c; (s', some (view pr s' c))

def run (pr : Proto P C) (s : St P C) (ops : List (Op P C)) : St P C :=
  ops.foldl (fun s o => (step pr s o).1) s

def Inv (pr : Proto P C) (s : St P C) : Prop :=
  ∀ c snap, s.cache c = some snap → ∀ p ∈ pr.deps c, snap p = s.ver p

def Covered (pr : Proto P C) : Prop := ∀ c p, p ∈ pr.deps c → c ∈ pr.clears p

/-- observing changes no version -/
theorem fill_ver (s : St P C) (c : C) : (fill s c).ver = s.ver := by
  unfold fill; split <;> rfl

theorem step_ver_congr (pr : Proto P C) {s s' : St P C} (h : s.ver = s'.ver) (o : Op P C) :
    (step pr s o).1.ver = (step pr s' o).1.ver := by
  cases o with
  | set p => simp only [step, setP, h]
  | obs c => exact (fill_ver s c).trans (h.trans (fill_ver s' c).symm)

theorem run_ver_congr (pr : Proto P C) (ops : List (Op P C)) {s s' : St P C} (h : s.ver = s'.ver) :
    (run pr s ops).ver = (run pr s' ops).ver := by
  induction ops generalizing s s' with
  | nil => exact h
  | cons o os ih => exact ih (step_ver_congr pr h o)

/-- the versions a history ends with do not depend on the observations made on the way -/
theorem run_ver_obs (pr : Proto P C) (s : St P C) (ops₁ ops₂ : List (Op P C)) (d : C) :
    (run pr s (ops₁ ++ .obs d :: ops₂)).ver = (run pr s (ops₁ ++ ops₂)).ver := by
  simp only [run, List.foldl_append, List.foldl_cons]
  exact run_ver_congr pr ops₂ (fill_ver _ d)

theorem inv_init (pr : Proto P C) : Inv pr (init : St P C) := by
  intro c snap h; simp [init] at h

theorem inv_set (pr : Proto P C) (hc : Covered pr) (s : St P C) (p : P) (h : Inv pr s) :
    Inv pr (setP pr s p) := by
  intro c snap hs q hq
  simp only [setP] at hs ⊢
  split at hs
  · cases hs
  · rename_i hnot
    have := h c snap hs q hq
    by_cases hqp : q = p
    · subst hqp; exact absurd (hc c q hq) hnot
    · simp [hqp, this]

theorem inv_fill (pr : Proto P C) (s : St P C) (c : C) (h : Inv pr s) : Inv pr (fill s c) := by
  unfold fill
  split
  · exact h
  · intro d snap hs q hq
    simp only at hs
    split at hs
    · cases hs; rfl
    · exact h d snap hs q hq

theorem inv_run (pr : Proto P C) (hc : Covered pr) (ops : List (Op P C)) (s : St P C) (h : Inv pr s) :
    Inv pr (run pr s ops) := by
  induction ops generalizing s with
  | nil => exact h
  | cons o os ih =>
    apply ih
    cases o with
    | set p => exact inv_set pr hc s p h
    | obs c => exact inv_fill pr s c h

/-- main: after any history, an observation equals the from-scratch observation of the final configuration -/
theorem no_stale (pr : Proto P C) (hc : Covered pr) (ops : List (Op P C)) (c : C) :
    let s := run pr init ops
    (step pr s (.obs c)).2 = some ((pr.deps c).map s.ver) := by
  intro s
  have hI : Inv pr s := inv_run pr hc ops init (inv_init pr)
  have hF := inv_fill pr s c hI
  simp only [step, view]
  congr 1
  cases hcache : (fill s c).cache c with
  | none => simp [fill]; split <;> simp_all [fill]
  | some snap =>
    simp only
    apply List.map_congr_left
    intro p hp
    have := hF c snap hcache p hp
    rw [this]
    unfold fill; split <;> rfl

/-- converse witness -/
theorem stale_witness (pr : Proto P C) (c : C) (p : P) (hd : p ∈ pr.deps c) (hn : c ∉ pr.clears p) :
    let s := run pr init [.obs c, .set p]
    (step pr s (.obs c)).2 ≠ some ((pr.deps c).map s.ver) := by
  intro s h
  simp only [s, run, List.foldl, step, fill, init, setP, view, hn, if_false, if_true, ite_true] at h
  simp at h
  have := h p hd
  simp at this

end Inval
