import Cherab.Props.C20
import Cherab.Lemmas.AdmtDense

/-!
# C20 — the dense assembly of the operators, and other orderings of the same grid

* `Model/AdmtDense.lean: denseRun` is what the loop body of `generate_derivative_operators` does to the `np.zeros`
  rows: every `D[ith_cell, n_p] = coef` stores into column `n_p`, a later store into the same column wins, a store
  through a failed lookup is `IndexError`.  All theorems of `Props/C20.lean` are about `rawEntry`/`opEntry`, which read
  the entry off a *position*-keyed table as a sum.  `dense_assembly_last_write_wins` closes that gap for **every**
  assignment program, every pair of mutually inverse index maps (any subset of the mesh in any order — masked,
  row-major, shuffled) and every cell: the two executions raise together and give the same row.
* `operator_relabel`: describing the same cells in another 1-D order (`σ` = the renumbering) gives the operator with
  rows and columns renumbered, `D'[σ i, σ j] = D[i, j]` (and 0 outside the image), i.e. `P·D·Pᵀ`.
-/
namespace Cherab.Props.C20
open Cherab.Admt Cherab.Gen.Admt

variable {α : Type} [Field α]

/-- **last write wins = sum over the positions of a column.**  For every assignment program `prog` (in particular the
generated one), every list of cells, and the cell `c` stored at 1-D index `i` (`grid_index_2d_to_1d_map[c] = i`): the
dense execution raises `IndexError` iff the position-keyed one does, and otherwise every entry of the five dense rows is
the `rawEntry` of the table. -/
theorem dense_assembly_last_write_wins (prog : List Asg) (cells : List (Int × Int)) (c : Int × Int) (i : Nat)
    (hi : lookup cells c.1 c.2 = some i) :
    (denseRun prog cells c i).isSome = (runProgram prog (hasOf cells c)).isSome ∧
    ∀ d t, denseRun prog cells c i = some d → runProgram prog (hasOf cells c) = some t →
      ∀ (op : Op5) (j : Nat), (d.val op j : α) = rawEntry cells c t op j := by
  have h0 : DenseInv cells c DenseRows.empty Table.empty :=
    ⟨fun _ _ _ _ => rfl, fun _ _ _ => rfl⟩
  have h := foldlM_rel hi prog h0
  unfold denseRun runProgram
  generalize prog.foldlM (stepDense cells c i) DenseRows.empty = o at h ⊢
  generalize prog.foldlM (stepAsg (hasOf cells c)) Table.empty = o' at h ⊢
  rcases o with _ | d <;> rcases o' with _ | t
  · exact ⟨rfl, fun d t hd => by cases hd⟩
  · exact h.elim
  · exact h.elim
  · refine ⟨rfl, ?_⟩
    intro d' t' hd ht op j
    cases hd; cases ht
    by_cases hex : ∃ p, neighbour cells c p = some j
    · obtain ⟨p, hp⟩ := hex
      rw [rawEntry_of_col t op hp]
      unfold DenseRows.val Table.val
      rw [h.1 op p j hp]
      rfl
    · have hall : ∀ p, neighbour cells c p ≠ some j := fun p hp => hex ⟨p, hp⟩
      rw [rawEntry_of_no_col t op hall]
      unfold DenseRows.val
      rw [h.2 op j hall]

/-- the generated program, after the post-loop scaling: the dense operator entry is `opEntry` -/
theorem dense_operator_eq_opEntry (cells : List (Int × Int)) (c : Int × Int) (i : Nat)
    (hi : lookup cells c.1 c.2 = some i) :
    (denseRun program cells c i).isSome = (rowTable cells c).isSome ∧
    ∀ d t, denseRun program cells c i = some d → rowTable cells c = some t →
      ∀ (op : Op5) (dx dy : α) (j : Nat), denseEntry dx dy d op j = opEntry cells dx dy c t op j := by
  obtain ⟨h1, h2⟩ := dense_assembly_last_write_wins (α := α) program cells c i hi
  refine ⟨h1, ?_⟩
  intro d t hd ht op dx dy j
  unfold denseEntry opEntry
  rw [h2 d t hd ht op j]

/-- **every generated grid `n_x, n_y ≥ 2`**: the dense assembly of row `k` never raises, and `D[op] @ v` computed from
the dense row is the `opTimes` all exactness theorems are about. -/
theorem dense_full_grid [LinearOrder α] [IsStrictOrderedRing α] (nx ny k : Nat) (h2x : 2 ≤ nx) (h2y : 2 ≤ ny) (hk : k < nx * ny) :
    ∃ d, denseRun program (fullCells nx ny) (cellOf ny k) k = some d ∧
      ∀ (op : Op5) (dx dy : α) (v : Nat → α),
        opTimes nx ny dx dy op v k = some (dotN (nx * ny) (denseEntry dx dy d op) v) := by
  obtain ⟨hx, hy⟩ := cell_bounds hk
  obtain ⟨t, ht, -, -⟩ := dense_dot_eq_stencil (α := α) nx ny _ _ hx hy h2x h2y
  change rowTable _ (cellOf ny k) = some t at ht
  obtain ⟨h1, h2⟩ := dense_operator_eq_opEntry (α := α) (fullCells nx ny) (cellOf ny k) k (lookup_full_self hk)
  rw [ht, Option.isSome_some, Option.isSome_iff_exists] at h1
  obtain ⟨d, hd⟩ := h1
  refine ⟨d, hd, fun op dx dy v => ?_⟩
  unfold opTimes
  rw [ht, Option.map_some]
  congr 2
  funext j
  exact (h2 d t hd ht op dx dy j).symm

/-- non-vacuity / the difference is real: a program that writes the same column twice keeps the last value in the dense
form (here 2 and then 5 into the diagonal: 5), and `rawEntry` agrees because the table, too, was overwritten -/
example : (denseRun [⟨[], .Dx, .self, 2, 1, 0⟩, ⟨[], .Dx, .self, 5, 1, 0⟩] [(0, 0)] (0, 0) 0).map
    (fun d => d .Dx 0) = some (some ⟨5, 1⟩) := by decide

/-- a masked, shuffled mesh (three cells in one row): the hypothesis holds for the cell `(0, 0)`, stored at index 1,
and that cell raises in both forms (it has no vertical neighbour) -/
example : lookup [(1, 0), (0, 0), (2, 0)] 0 0 = some 1 ∧
    (denseRun program [(1, 0), (0, 0), (2, 0)] (0, 0) 1).isSome = false ∧
    (rowTable [(1, 0), (0, 0), (2, 0)] (0, 0)).isSome = false := by decide

/-- **`P·D·Pᵀ`.**  Let `cells'` describe the same cells as `cells` with the 1-D indices renumbered by an injective `σ`
(`grid_index_2d_to_1d_map' = σ ∘ grid_index_2d_to_1d_map`).  Then every cell has the same row table (so it raises or
not alike), `D'[·, σ j] = D[·, j]` in the row of that cell, and the columns outside the image of `σ` are zero. -/
theorem operator_relabel (cells cells' : List (Int × Int)) (σ : Nat → Nat) (hσ : Function.Injective σ)
    (hmap : ∀ jx jy, lookup cells' jx jy = (lookup cells jx jy).map σ) (c : Int × Int) :
    rowTable cells' c = rowTable cells c ∧
    ∀ (t : Table) (op : Op5) (dx dy : α),
      (∀ j, opEntry cells' dx dy c t op (σ j) = opEntry cells dx dy c t op j) ∧
      (∀ j', (∀ j, j' ≠ σ j) → opEntry cells' dx dy c t op j' = 0) := by
  have hn : ∀ p, neighbour cells' c p = (neighbour cells c p).map σ := fun p => hmap _ _
  refine ⟨?_, ?_⟩
  · unfold rowTable
    congr 1
    funext p
    simp [hasOf, hn p]
  · intro t op dx dy
    refine ⟨?_, ?_⟩
    · intro j
      unfold opEntry rawEntry
      congr 2
      funext s p
      rw [hn p]
      cases neighbour cells c p with
      | none => rfl
      | some m => simp [hσ.eq_iff]
    · intro j' hj'
      unfold opEntry
      rw [rawEntry_of_no_col, zero_div]
      intro p hp
      rw [hn p] at hp
      obtain ⟨m, -, hm⟩ := Option.map_eq_some_iff.mp hp
      exact hj' m hm.symm

/-- non-vacuity: the row-major listing of the 2 × 2 grid is the column-major one renumbered by the swap of 1 and 2 -/
example : ∀ jx ∈ [(-1 : Int), 0, 1, 2], ∀ jy ∈ [(-1 : Int), 0, 1, 2],
    lookup [(0, 0), (1, 0), (0, 1), (1, 1)] jx jy =
      (lookup (fullCells 2 2) jx jy).map (fun k => if k = 1 then 2 else if k = 2 then 1 else k) := by decide

end Cherab.Props.C20
