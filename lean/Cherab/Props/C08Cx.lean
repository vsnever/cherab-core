import Cherab.Lemmas.AdfCx
import Cherab.Props.C08

/-!
C08 — install step of ADF15 thermal-CX PECs (`_thermalcx_adf15_2dto3d_converter`): "installing the file into a repository and
reading it back yields the same tables", "charge-state convention", and "not silently mis-read" for the converter that sits
between `parse_adf15` and the repository.
-/
namespace Cherab.Props.C08
open Cherab.Adf
variable {α ν τ ω : Type}

/-- a table whose shape matches its grids is converted without error; grids are handed on unchanged, `td` is the fixed
two-point grid, and the 3-D table is the 2-D one repeated along the last axis — every size, including empty grids -/
theorem cx3d_wellformed (r : Rate15 α) (h : Rect r) : cx3dRate r = .ok (cx3dSpec r) := by
  rw [cx3dRate_of_rows r h.1, mapM_ok_of_forall _ (fun row => row.map dupTd)]
  · rfl
  · intro row hrow
    rw [bcastAxis_exact _ _ (h.2 row hrow)]; rfl

example : Rect (⟨["1", "2"], ["a", "b", "c"], [["p", "q", "r"], ["s", "t", "u"]]⟩ : Rate15 String) := by
  refine ⟨rfl, ?_⟩; decide

/-- entry-by-entry: `rate3[i_ne][i_te][k] = rate[i_ne][i_te]` for both donor temperatures (axis order (density, temperature)
is kept, nothing is transposed), for all indices — out of range on one side iff on the other -/
theorem cx3d_entry (r : Rate15 α) (i j k : Nat) (hk : k < 2) :
    (((cx3dSpec r).rate[i]?.bind (·[j]?)).bind (·[k]?)) = r.rate[i]?.bind (·[j]?) := by
  unfold cx3dSpec
  simp only [List.getElem?_map]
  cases r.rate[i]? with
  | none => rfl
  | some row =>
    simp only [Option.map_some, Option.bind_some, List.getElem?_map]
    cases row[j]? with
    | none => rfl
    | some x => simp only [Option.map_some, Option.bind_some]; exact dupTd_get x k hk

/-- shape `(len ne, len te, 2)` -/
theorem cx3d_shape (r : Rate15 α) (h : Rect r) :
    (cx3dSpec r).rate.length = r.ne.length ∧ (∀ row ∈ (cx3dSpec r).rate, row.length = r.te.length ∧ ∀ cell ∈ row, cell.length = 2)
      ∧ (cx3dSpec r).td.length = 2 := by
  refine ⟨by simp [cx3dSpec, h.1], ?_, rfl⟩
  simp only [cx3dSpec, List.forall_mem_map, List.length_map]
  exact fun row hrow => ⟨h.2 row hrow, fun x _ => dupTd_length x⟩

/-- composed with the parser's result for a written block (`adf15_roundtrip` returns `rateOfBlk15 b` for the block of a
CHEXC transition): the installed 3-D entry at `(i_ne, i_te, k)` is the file's number `b.rate i_ne i_te` -/
theorem cx3d_of_block (b : Blk15 α ω) :
    cx3dRate (rateOfBlk15 b) = .ok (cx3dSpec (rateOfBlk15 b)) ∧
    ∀ i j k, i < b.ne.length → j < b.te.length → k < 2 →
      (((cx3dSpec (rateOfBlk15 b)).rate[i]?.bind (·[j]?)).bind (·[k]?)) = some (b.rate i j) := by
  have hR : Rect (rateOfBlk15 b) := by
    simp only [Rect, rateOfBlk15, tabulate, List.length_map, List.length_range, List.forall_mem_map, implies_true, and_self]
  refine ⟨cx3d_wellformed _ hR, ?_⟩
  intro i j k hi hj hk
  rw [cx3d_entry _ i j k hk]
  exact axis_order15 b i j hi hj

example : cx3dRate (rateOfBlk15 (⟨3, "w", .chexc, ["1", "2"], ["a"], fun i j => toString (10 * i + j)⟩ : Blk15 String String))
    = .ok ⟨["1", "2"], ["a"], ["0.01", "10000"], [[["0", "0"]], [["10", "10"]]]⟩ := rfl

/-- a table with the wrong number of density rows is rejected (ValueError), unless it has exactly one row -/
theorem cx3d_rows_rejected (r : Rate15 α) (h : r.rate.length ≠ r.ne.length) (h1 : r.rate.length ≠ 1) :
    cx3dRate r = .error .value := by
  unfold cx3dRate
  rw [bcastAxis_reject _ _ h h1]; rfl

/-- a table with the wrong number of temperature columns is rejected (ValueError), unless it has exactly one column -/
theorem cx3d_cols_rejected (r : Rate15 α) (row : List α) (rest : List (List α)) (hrate : r.rate = row :: rest)
    (hr : r.rate.length = r.ne.length) (h : row.length ≠ r.te.length) (h1 : row.length ≠ 1) :
    cx3dRate r = .error .value := by
  simp only [cx3dRate_of_rows r hr, hrate, List.mapM_cons, bcastAxis_reject _ _ h h1]
  rfl

example : cx3dRate (⟨["1", "2", "3"], ["a"], [["p"], ["q"]]⟩ : Rate15 String) = .error .value := rfl
example : cx3dRate (⟨["1", "2"], ["a", "b", "c"], [["p", "q"], ["r", "s"]]⟩ : Rate15 String) = .error .value := rfl

/-- the `≠ 1` side conditions above are necessary: numpy broadcasting repeats an axis of length 1, so a one-row table for three
densities is accepted and repeated (the parser never produces one: `cx3d_of_block`) -/
theorem cx3d_len1_axis_repeated :
    cx3dRate (⟨["1", "2", "3"], ["a", "b"], [["p", "q"]]⟩ : Rate15 String)
      = .ok ⟨["1", "2", "3"], ["a", "b"], tdGrid, List.replicate 3 [["p", "p"], ["q", "q"]]⟩ := rfl

/-- the whole converter on a nested dictionary of well-shaped tables: elements and transitions keep their keys and their
order, every charge key is shifted by exactly `+1` (receiver charge = emitting charge + 1), every table is `cx3dSpec` -/
theorem cx2dto3d_wellformed (rates : List (ν × List (Int × List (τ × Rate15 α))))
    (h : ∀ ec ∈ rates, ∀ qt ∈ ec.2, ∀ tr ∈ qt.2, Rect tr.2) :
    cx2dto3d rates = .ok (rates.map fun ec => (ec.1, ec.2.map fun qt => (qt.1 + 1, qt.2.map fun tr => (tr.1, cx3dSpec tr.2)))) := by
  unfold cx2dto3d
  apply mapM_ok_of_forall
  intro ec hec
  rw [mapM_ok_of_forall _ (fun qt => (qt.1 + 1, qt.2.map fun tr => (tr.1, cx3dSpec tr.2)))]
  · rfl
  · intro qt hqt
    rw [mapM_ok_of_forall _ (fun tr => (tr.1, cx3dSpec tr.2))]
    · rfl
    · intro tr htr
      rw [cx3d_wellformed _ (h ec hec qt hqt tr htr)]; rfl

/-- charge-state convention of the thermal-CX family: the keys of the converted dictionary -/
theorem cx_charge_plus_one (rates : List (ν × List (Int × List (τ × Rate15 α)))) (out)
    (h : ∀ ec ∈ rates, ∀ qt ∈ ec.2, ∀ tr ∈ qt.2, Rect tr.2) (ho : cx2dto3d rates = .ok out) :
    out.map (·.1) = rates.map (·.1) ∧
    out.map (fun ec => ec.2.map (·.1)) = rates.map (fun ec => ec.2.map (·.1 + 1)) ∧
    out.map (fun ec => ec.2.map fun qt => qt.2.map (·.1)) = rates.map (fun ec => ec.2.map fun qt => qt.2.map (·.1)) := by
  rw [cx2dto3d_wellformed rates h] at ho
  cases ho
  simp [List.map_map, Function.comp_def]

/-- a rejected table makes the converter raise, so nothing is written for the file (no partial dictionary is returned); stated
for the table that the three nested loops meet first, a later one is the example below -/
theorem cx2dto3d_rejects (el : ν) (q : Int) (t : τ) (r : Rate15 α) (rest1 : List (τ × Rate15 α))
    (rest2 : List (Int × List (τ × Rate15 α))) (rest3 : List (ν × List (Int × List (τ × Rate15 α))))
    (hr : cx3dRate r = .error .value) :
    cx2dto3d ((el, (q, (t, r) :: rest1) :: rest2) :: rest3) = .error .value := by
  simp only [cx2dto3d, List.mapM_cons, hr]
  rfl

example : cx2dto3d [("ne", [((9 : Int), [("t1", (⟨["1"], ["a", "b"], [["p", "q"]]⟩ : Rate15 String)),
    ("t2", ⟨["1", "2", "3"], ["a"], [["p"], ["q"]]⟩)])])] = .error .value := rfl

example : cx2dto3d [("ne", [((9 : Int), [("t1", (⟨["1"], ["a", "b"], [["p", "q"]]⟩ : Rate15 String))])])]
    = .ok [("ne", [(10, [("t1", ⟨["1"], ["a", "b"], ["0.01", "10000"], [[["p", "p"], ["q", "q"]]]⟩)])])] := rfl

end Cherab.Props.C08
