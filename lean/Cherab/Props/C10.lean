import Cherab.Lemmas.RayTransfer
import Mathlib.Algebra.BigOperators.Group.Finset.Piecewise

/-!
# C10 — ray-transfer matrices account for the whole chord and respect voxel maps

Property theorems over `Cherab/Model/RayTransfer.lean`.

Clauses of the property sentence and the theorems that carry them:

* "entries sum to the length of the chord inside the active cells" — `runlength_refines_naive`,
  `integrate_closed_form`, `total_is_chord`, `total_is_length`, `integrate_total_is_length`;
* "each cell's entry differs from the exact chord length in that cell by at most two integration steps" —
  `midpoint_count_error` (one interval of ray ∩ cell: `≤ dt`), `cell_entry_error`, `dt_bounds` (`dt < 1.5·step < 2·step`),
  `integrate_cell_two_steps`, `cart_cell_convex` (a box cell meets the ray in one interval): full strength for boxes;
  `multi_interval_error_partial` (`m` intervals: `≤ m·dt`), `three_intervals_exceed_two_dt`, `coarse_step_witness`,
  `dt_lt_step_fixed`, `two_interval_cell_two_steps_fixed`, `ring_at_most_two_intervals`: what holds / fails for
  non-convex cylindrical cells;
* "cells outside the mask or mapped to -1 receive nothing" — `inactive_get_nothing`, `mapFromMask_false`;
* "with a voxel map that merges cells, each source's entry equals the sum of the entries of its cells under the
  one-source-per-cell map" — `merge_is_sum`;
* "cylindrical grids repeat with the stated angular period" — `phi_periodic`, `phi_index_in_range`;
* mechanisms: `mask_map_bijective`, `bins_mapFromMask`, `bins_bounds_sources`, `cart_index_in_range`,
  `box_upper_inside_grid`, `cyl_r_index_in_range`; `emission_function`: `emit_adds_unit`;
* histories of setter writes and of `observe()` calls on one object: `emitter_history_consistent`,
  `emitter_last_write_wins`, `integ_history_valid`, `pipe0D_repeated_observe_eq_fresh`, `pipe0D_observe_is_mean`.

`sqrt`, `atan2`, `fmod` and the C cast `<int>` are parameters (`TruncSpec`, `FmodSpec`).
-/
namespace Cherab.Props.C10
set_option linter.unusedSectionVars false
open Cherab.RayTransfer

/-! ## run-length accumulator = naive per-sample specification (any commutative monoid) -/
section monoid
variable {α : Type} [AddCommMonoid α]

/-- The loop of `integrate` (two-level run-length accumulation with `res` / `isource_current`, final flush) computes
exactly "add `dt` to the source of the cell of every sample whose source is `> -1`", whenever every sample cell is
inside the voxel map and every source fits the spectrum (otherwise the compiled code raises `IndexError`). -/
theorem runlength_refines_naive (look : Cell → Option Int) (bins : Nat) (dt : α) (spec : Int → α)
    (cells : List Cell) (h0 : look (-1, -1, -1) = none)
    (hall : ∀ c ∈ cells, ∃ s, look c = some s ∧ s < (bins : Int)) :
    accumulate look bins dt spec cells = some (naive look dt spec cells) := by
  have h := fold_flush_refines look bins dt h0 cells (Acc.init spec) (inv_init look bins spec) hall
  rwa [flushF_init] at h

/-- the bounds-checked voxel-map lookup satisfies the side condition on the initial `(-1,-1,-1)` -/
theorem vmap_look_init (m : VMap) : m.look (-1, -1, -1) = none := by
  simp [VMap.look]

/-- closed form of an entry: `dt` times the number of samples whose cell maps to that source -/
theorem entry_closed_form (look : Cell → Option Int) (dt : α) (spec : Int → α) (cells : List Cell) (j : Int) :
    naive look dt spec cells j =
      spec j + (if j > -1 then (cells.countP fun c => look c = some j) • dt else 0) := by
  induction cells generalizing spec with
  | nil => simp [naive]
  | cons c cs ih =>
    rw [show naive look dt spec (c :: cs) = naive look dt _ cs from rfl, ih, List.countP_cons]
    cases hl : look c with
    | none => simp [hl]
    | some src =>
      by_cases hjs : src = j
      · -- the sample's source is `j`: one more `dt` if `j` is a source at all
        subst hjs
        by_cases hs : src > -1
        · simp [hl, hs, bump, add_nsmul, one_nsmul, add_assoc, add_comm dt]
        · simp [hl, hs]
      · -- another source: entry `j` is not touched
        have : (if src > -1 then bump spec src dt else spec) j = spec j := by
          split_ifs
          · exact if_neg (Ne.symm hjs)
          · rfl
        simp [hl, this, hjs]

/-- cells outside the mask / mapped to a negative index, and sources none of whose cells is sampled, receive nothing -/
theorem inactive_get_nothing (look : Cell → Option Int) (dt : α) (spec : Int → α) (cells : List Cell) (j : Int)
    (h : j ≤ -1 ∨ ∀ c ∈ cells, look c ≠ some j) : naive look dt spec cells j = spec j := by
  rw [entry_closed_form]
  rcases h with h | h
  · have : ¬ j > -1 := by omega
    simp [this]
  · have : (cells.countP fun c => decide (look c = some j)) = 0 := by
      rw [List.countP_eq_zero]; intro c hc; simpa using h c hc
    simp [this]

/-- `emission_function` (the path used with any other volume integrator): exactly one unit goes to the source of the point's
cell, nothing to any other bin, nothing at all for an inactive cell -/
theorem emit_adds_unit {β : Type} [AddCommMonoid β] [One β] (look : Cell → Option Int) (bins : Nat) (spec : Int → β)
    (c : Cell) (s : Int) (hc : look c = some s) (hs : s < (bins : Int)) :
    emit look bins spec c = some (if s < 0 then spec else bump spec s 1) := by
  unfold emit write
  rw [hc]
  by_cases h : s < 0 <;> simp [h, hs]

theorem sum_bump (bins : Nat) (spec : Int → α) (s : Int) (v : α) (h1 : s > -1) (h2 : s < (bins : Int)) :
    (Finset.range bins).sum (fun j => bump spec s v (j : Int)) = (Finset.range bins).sum (fun j => spec (j : Int)) + v := by
  -- among the bins only `s.toNat` is `s`
  have hb : ∀ j : Nat, bump spec s v (j : Int) = spec (j : Int) + if j = s.toNat then v else 0 := fun j => by
    unfold bump
    by_cases h : (j : Int) = s
    · rw [if_pos h, if_pos (by omega)]
    · rw [if_neg h, if_neg (by omega), add_zero]
  simp only [hb, Finset.sum_add_distrib, Finset.sum_ite_eq', Finset.mem_range]
  rw [if_pos (by omega)]

/-- is the sample's cell mapped to a light source? -/
def activeCell (look : Cell → Option Int) (c : Cell) : Bool :=
  match look c with
  | some s => decide (s > -1)
  | none => false

/-- Σ entries = Σ initial spectrum + `dt`·#{samples in active cells} -/
theorem total_is_chord (look : Cell → Option Int) (bins : Nat) (dt : α) (cells : List Cell)
    (hall : ∀ c ∈ cells, ∃ s, look c = some s ∧ s < (bins : Int)) :
    ∀ spec : Int → α, (Finset.range bins).sum (fun j => naive look dt spec cells (j : Int)) =
      (Finset.range bins).sum (fun j => spec (j : Int)) + (cells.countP (activeCell look)) • dt := by
  induction cells with
  | nil => intro spec; simp [naive]
  | cons c cs ih =>
    intro spec
    obtain ⟨s, hc, hs⟩ := hall c (by simp)
    have hcons : naive look dt spec (c :: cs) =
        naive look dt (if s > -1 then bump spec s dt else spec) cs := by
      simp only [naive, List.foldl_cons, hc]
    rw [hcons, ih (fun c' hc' => hall c' (by simp [hc']))]
    by_cases h1 : s > -1
    · have hact : activeCell look c = true := by simp [activeCell, hc, h1]
      simp only [h1, if_true, List.countP_cons, hact]
      rw [sum_bump bins spec s dt h1 hs, add_assoc]
      congr 1
      simp [add_nsmul, one_nsmul, add_comm]
    · have hact : activeCell look c = false := by simp [activeCell, hc, h1]
      simp [h1, hact]

theorem total_all_active (look : Cell → Option Int) (bins : Nat) (dt : α) (cells : List Cell) (spec : Int → α)
    (hall : ∀ c ∈ cells, ∃ s, look c = some s ∧ s > -1 ∧ s < (bins : Int)) :
    (Finset.range bins).sum (fun j => naive look dt spec cells (j : Int)) =
      (Finset.range bins).sum (fun j => spec (j : Int)) + cells.length • dt := by
  rw [total_is_chord look bins dt cells (fun c hc => by obtain ⟨s, h1, _, h3⟩ := hall c hc; exact ⟨s, h1, h3⟩)]
  congr 2
  rw [List.countP_eq_length]
  intro c hc
  obtain ⟨s, h1, h2, _⟩ := hall c hc
  simp only [activeCell, h1, h2, decide_true]

theorem sum_map_nsmul {β : Type} (l : List β) (f : β → Nat) (dt : α) :
    (l.map f).sum • dt = (l.map fun x => f x • dt).sum := by
  induction l with
  | nil => simp
  | cons x xs ih => simp only [List.map_cons, List.sum_cons, add_nsmul, ih]

/-- merged voxel map: the entry of source `s` is the sum, over the distinct sampled cells mapped to `s`, of the entries
those cells receive under a one-source-per-cell map (`idf` injective on the sampled cells, all active) -/
theorem merge_is_sum (m ident : Cell → Option Int) (idf : Cell → Int) (dt : α) (cells : List Cell) (s : Int)
    (hs : s > -1) (hid : ∀ c ∈ cells, ident c = some (idf c) ∧ idf c > -1)
    (hinj : ∀ c ∈ cells, ∀ c' ∈ cells, idf c = idf c' → c = c') :
    naive m dt (fun _ => 0) cells s =
      ((cells.dedup.filter fun c => m c = some s).map fun c => naive ident dt (fun _ => 0) cells (idf c)).sum := by
  have hterm : ∀ c ∈ cells.dedup.filter (fun c => m c = some s),
      naive ident dt (fun _ => 0) cells (idf c) = (cells.count c) • dt := by
    intro c hc
    have hc' : c ∈ cells := List.mem_dedup.mp (List.mem_filter.mp hc).1
    rw [entry_closed_form, if_pos (hid c hc').2, zero_add, List.count_eq_countP]
    congr 1
    -- under the one-source-per-cell map only the copies of `c` itself carry its source
    refine List.countP_congr fun c2 hc2 => ?_
    rw [(hid c2 hc2).1, decide_eq_true_eq, beq_iff_eq, Option.some.injEq]
    exact ⟨hinj c2 hc2 c hc', fun h => h ▸ rfl⟩
  rw [List.map_congr_left hterm, entry_closed_form, if_pos hs, zero_add,
    ← List.sum_map_count_dedup_filter_eq_countP (fun c => decide (m c = some s)) cells]
  convert sum_map_nsmul _ _ dt

end monoid

theorem mapFromMask_length (mask : List Bool) : (mapFromMask mask).length = mask.length :=
  mapFromMaskAux_length mask 0

/-- a True cell gets the number of True cells that precede it in C order; a False cell gets `-1` -/
theorem mapFromMask_get (mask : List Bool) (i : Nat) (h : i < mask.length) :
    (mapFromMask mask)[i]'(by rw [mapFromMask_length]; exact h) =
      if mask[i] then (((mask.take i).count true : Nat) : Int) else -1 := by
  unfold mapFromMask
  rw [mapFromMaskAux_get mask 0 i h]; simp

theorem mapFromMask_false (mask : List Bool) (i : Nat) (h : i < mask.length) (hm : mask[i] = false) :
    (mapFromMask mask)[i]'(by rw [mapFromMask_length]; exact h) = -1 := by
  rw [mapFromMask_get mask i h]; simp [hm]

theorem count_take_strict (mask : List Bool) {i j : Nat} (hij : i < j) (hj : j ≤ mask.length)
    (hm : mask[i]'(by omega) = true) : (mask.take i).count true < (mask.take j).count true := by
  have h : (mask.take (i + 1)).count true = (mask.take i).count true + 1 := by
    rw [List.take_succ_eq_append_getElem (by omega), List.count_append, hm, List.count_singleton_self]
  exact Nat.lt_of_succ_le (h.symm.trans_le ((List.take_sublist_take_left hij).count_le true))

theorem exists_nth_true : ∀ (mask : List Bool) (s : Nat), s < mask.count true →
    ∃ i, ∃ h : i < mask.length, mask[i] = true ∧ (mask.take i).count true = s
  | [], _, hs => by simp at hs
  | true :: _, 0, _ => ⟨0, by simp, by simp, by simp⟩
  | true :: bs, s + 1, hs | false :: bs, s, hs => by
    obtain ⟨i, h, hm, hc⟩ := exists_nth_true bs s (by simpa using hs)
    exact ⟨i + 1, by simpa using h, by simpa using hm, by simp [List.take_succ_cons, hc]⟩

/-- `_map_from_mask` numbers the True cells `0 … k-1` bijectively and in C order (`k` = number of True cells) -/
theorem mask_map_bijective (mask : List Bool) :
    -- every True cell gets an index in `[0, k)`
    (∀ i (h : i < mask.length), mask[i] = true →
      0 ≤ (mapFromMask mask)[i]'(by rw [mapFromMask_length]; exact h) ∧
      (mapFromMask mask)[i]'(by rw [mapFromMask_length]; exact h) < (mask.count true : Int)) ∧
    -- order preserving, hence injective
    (∀ i j (hi : i < mask.length) (hj : j < mask.length), mask[i] = true → mask[j] = true → i < j →
      (mapFromMask mask)[i]'(by rw [mapFromMask_length]; exact hi) < (mapFromMask mask)[j]'(by rw [mapFromMask_length]; exact hj)) ∧
    -- onto `[0, k)`
    (∀ s : Nat, s < mask.count true → ∃ i, ∃ h : i < mask.length, mask[i] = true ∧
      (mapFromMask mask)[i]'(by rw [mapFromMask_length]; exact h) = (s : Int)) := by
  refine ⟨fun i h hm => ?_, fun i j hi hj hmi hmj hij => ?_, fun s hs => ?_⟩
  · rw [mapFromMask_get mask i h, if_pos hm]
    have := count_take_strict mask h le_rfl hm
    rw [List.take_length] at this
    exact ⟨Int.natCast_nonneg _, by exact_mod_cast this⟩
  · rw [mapFromMask_get mask i hi, mapFromMask_get mask j hj, if_pos hmi, if_pos hmj]
    exact_mod_cast count_take_strict mask hij hj.le hmi
  · obtain ⟨i, h, hm, hc⟩ := exists_nth_true mask s hs
    exact ⟨i, h, hm, by rw [mapFromMask_get mask i h, if_pos hm, hc]⟩

theorem bins_eq_some_iff {vm : List Int} {b : Int} : bins vm = some b ↔ b - 1 ∈ vm ∧ ∀ v ∈ vm, v ≤ b - 1 := by
  rw [← List.max?_eq_some_iff]
  cases vm with
  | nil => simp [bins]
  | cons v vs => rw [List.max?_cons', bins, Option.some.injEq, Option.some.injEq]; omega

/-- `bins = voxel_map.max() + 1` exceeds every source index: the spectrum write can not go out of bounds -/
theorem bins_bounds_sources (vm : List Int) (b : Int) (h : bins vm = some b) : ∀ v ∈ vm, v < b :=
  fun v hv => Int.lt_of_le_sub_one ((bins_eq_some_iff.1 h).2 v hv)

/-- with a mask, `bins` is the number of True cells -/
theorem bins_mapFromMask (mask : List Bool) (hne : mask ≠ []) :
    bins (mapFromMask mask) = some (mask.count true : Int) := by
  obtain ⟨hrange, -, honto⟩ := mask_map_bijective mask
  refine bins_eq_some_iff.2 ⟨?_, fun v hv => ?_⟩
  · by_cases hk : mask.count true = 0
    · -- no True cell: the first entry is `-1`
      have h0 : 0 < mask.length := List.length_pos_of_ne_nil hne
      have hf : mask[0] = false :=
        Bool.eq_false_of_not_eq_true fun hm => List.count_eq_zero.1 hk (hm ▸ List.getElem_mem h0)
      rw [hk, Nat.cast_zero, zero_sub, ← mapFromMask_false mask 0 h0 hf]
      exact List.getElem_mem _
    · -- otherwise the last True cell carries `k - 1`
      obtain ⟨i, hi, -, hv⟩ := honto (mask.count true - 1) (by omega)
      have e : ((mask.count true - 1 : Nat) : Int) = (mask.count true : Int) - 1 := by omega
      rw [← e, ← hv]
      exact List.getElem_mem _
  · obtain ⟨i, hi, rfl⟩ := List.mem_iff_getElem.1 hv
    have hi' : i < mask.length := by rwa [mapFromMask_length] at hi
    cases hm : mask[i] with
    | true => have := (hrange i hi' hm).2; omega
    | false => rw [mapFromMask_false mask i hi' hm]; omega

/-- the `mask` getter inverts `_map_from_mask` -/
theorem maskOf_mapFromMask (mask : List Bool) : maskOf (mapFromMask mask) = mask := by
  unfold maskOf
  refine List.ext_getElem (by rw [List.length_map, mapFromMask_length]) fun i _ h => ?_
  rw [List.getElem_map, mapFromMask_get mask i h]
  by_cases hm : mask[i] = true
  · rw [if_pos hm, hm, decide_eq_true_eq]; omega
  · rw [if_neg hm, Bool.eq_false_of_not_eq_true hm]; rfl

/-- the sample count as a scalar: the model casts `n.toNat` -/
theorem natCast_toNat {α : Type} [AddGroupWithOne α] {n : Int} (hn : 0 ≤ n) : ((n.toNat : Nat) : α) = (n : α) := by
  rw [← Int.cast_natCast, Int.toNat_of_nonneg hn]

section dt
variable {α : Type} [Field α] [LinearOrder α] [IsStrictOrderedRing α]

theorem dtOf_pos {length : α} {n : Int} (hlen : 0 < length) (hn : 0 < n) : 0 < dtOf length n :=
  div_pos hlen (Nat.cast_pos.2 (Int.pos_iff_toNat_pos.1 hn))

theorem dtOf_lt_iff {length b : α} {n : Int} (hn : 0 < n) : dtOf length n < b ↔ length < n * b := by
  unfold dtOf
  rw [natCast_toNat hn.le, div_lt_iff₀ (Int.cast_pos.2 hn), mul_comm]

theorem toNat_mul_dtOf (length : α) {n : Int} (hn : 0 < n) : ((n.toNat : Nat) : α) * dtOf length n = length :=
  mul_div_cancel₀ length (Nat.cast_pos.2 (Int.pos_iff_toNat_pos.1 hn)).ne'

end dt

section field
variable {α : Type} [Field α] [LinearOrder α] [IsStrictOrderedRing α] [FloorRing α]

/-- the C cast `<int>x`: truncation towards zero -/
def TruncSpec (trunc : α → Int) : Prop :=
  ∀ x : α, (0 ≤ x → trunc x = ⌊x⌋) ∧ (x < 0 → trunc x = ⌈x⌉)

/-- the truncation specified by `TruncSpec` exists -/
theorem truncSpec_witness : TruncSpec (fun x : α => if 0 ≤ x then ⌊x⌋ else ⌈x⌉) := by
  intro x; constructor
  · intro h; simp [h]
  · intro h; simp [not_le.mpr h]

theorem trunc_mono (trunc : α → Int) (ht : TruncSpec trunc) {x y : α} (h : x ≤ y) : trunc x ≤ trunc y := by
  rcases le_or_gt 0 x with hx | hx
  · rw [(ht x).1 hx, (ht y).1 (le_trans hx h)]; exact Int.floor_le_floor h
  · rcases le_or_gt 0 y with hy | hy
    · rw [(ht x).2 hx, (ht y).1 hy]
      exact (Int.ceil_le.2 (by simpa using hx.le)).trans (Int.floor_nonneg.2 hy)
    · rw [(ht x).2 hx, (ht y).2 hy]; exact Int.ceil_le_ceil h

/-- `n + 1 - extra` steps overshoot the path; both rounding rules (`extra = 0`, `extra = 1`) are read off this -/
theorem nSamples_spec (trunc : α → Int) (ht : TruncSpec trunc) (extra ms : Int) (length step : α)
    (hstep : 0 < step) (hlen : 0 ≤ length) :
    ms ≤ nSamples trunc extra ms length step ∧
      length < (((nSamples trunc extra ms length step : Int) : α) + 1 - (extra : α)) * step := by
  refine ⟨le_max_left _ _, ?_⟩
  have hfl : ⌊length / step⌋ + extra ≤ nSamples trunc extra ms length step := by
    unfold nSamples; rw [(ht _).1 (div_nonneg hlen hstep.le)]; exact le_max_right _ _
  have h1 := Int.lt_floor_add_one (length / step)
  have h2 : ((⌊length / step⌋ : Int) : α) + (extra : α) ≤ ((nSamples trunc extra ms length step : Int) : α) := by
    exact_mod_cast hfl
  exact (div_lt_iff₀ hstep).1 (by linarith only [h1, h2])

/-- `n = max(min_samples, <int>(length/step) + extra)`, `dt = length/n` (`extra = 0` before /repo 0235f3b, `1` since):
`n·dt = length` and `dt < 1.5·step` (so less than two integration steps) for every path length. -/
theorem dt_bounds (trunc : α → Int) (ht : TruncSpec trunc) (extra ms : Int) (length step : α)
    (hex : 0 ≤ extra) (hms : 2 ≤ ms) (hstep : 0 < step) (hlen : 0 ≤ length) :
    2 ≤ nSamples trunc extra ms length step ∧
    (((nSamples trunc extra ms length step).toNat : Nat) : α) * dtOf length (nSamples trunc extra ms length step) = length ∧
    2 * dtOf length (nSamples trunc extra ms length step) < 3 * step ∧
    dtOf length (nSamples trunc extra ms length step) < 2 * step := by
  obtain ⟨hn, hlt⟩ := nSamples_spec trunc ht extra ms length step hstep hlen
  generalize nSamples trunc extra ms length step = n at hn hlt ⊢
  have hn2 : 2 ≤ n := hms.trans hn
  have hN2 : (2 : α) ≤ (n : α) := by exact_mod_cast hn2
  have hex' : (0 : α) ≤ (extra : α) := by exact_mod_cast hex
  -- `n + 1 - extra ≤ n + 1 ≤ 3n/2` steps overshoot the path
  have h32 : ((n : α) + 1 - (extra : α)) * step ≤ n * (3 / 2 * step) := by
    rw [← mul_assoc]
    exact mul_le_mul_of_nonneg_right (by linarith only [hN2, hex']) hstep.le
  have h3 := (dtOf_lt_iff (by omega)).2 (hlt.trans_le h32)
  exact ⟨hn2, toNat_mul_dtOf length (by omega), by linarith only [h3], by linarith only [h3, hstep]⟩

/-- with `extra = 1`, i.e. `n = max(min_samples, <int>(length/step) + 1)` (/repo 0235f3b), the actual step never
exceeds the requested one: `dt < step` for every positive path length (`dt = 0` for a zero path) -/
theorem dt_lt_step_fixed (trunc : α → Int) (ht : TruncSpec trunc) (ms : Int) (length step : α)
    (hms : 2 ≤ ms) (hstep : 0 < step) (hlen : 0 ≤ length) :
    dtOf length (nSamples trunc 1 ms length step) < step := by
  obtain ⟨hn, hlt⟩ := nSamples_spec trunc ht 1 ms length step hstep hlen
  rw [Int.cast_one, add_sub_cancel_right] at hlt
  exact (dtOf_lt_iff (by omega)).2 hlt

theorem midpoint_eq (dt : α) (k : Nat) : midpoint dt k = ((k : α) + 1 / 2) * dt := by
  unfold midpoint; norm_num

/-- Number of sample midpoints `(k+½)dt`, `k < n`, falling into a set that lies between the open and the closed interval
with end points `a ≤ b` inside the path `[0, n·dt]` (i.e. any kind of interval), times `dt`, differs from the
interval's length by at most `dt`. -/
theorem midpoint_count_error (dt a b : α) (n : Nat) (P : α → Bool) (hdt : 0 < dt) (hab : a ≤ b) (ha : 0 ≤ a)
    (hb : b ≤ n * dt) (hin : ∀ t, a < t → t < b → P t = true) (hout : ∀ t, P t = true → a ≤ t ∧ t ≤ b) :
    |(((List.range n).countP fun k => P (midpoint dt k) : Nat) : α) * dt - (b - a)| ≤ dt := by
  -- in units of `dt` the sample points are the integers shifted by a half
  have h := count_int_points (a / dt - 1 / 2) (b / dt - 1 / 2) n (fun k => P (midpoint dt k))
    ((show (-1 : α) ≤ 0 - 1 / 2 by norm_num).trans (sub_le_sub_right (div_nonneg ha hdt.le) _))
    (sub_le_sub_right (div_le_div_of_nonneg_right hab hdt.le) _)
    ((sub_le_self _ (by norm_num)).trans ((div_le_iff₀ hdt).2 hb))
    (fun k h1 h2 => hin _ (by rw [midpoint_eq]; exact (div_lt_iff₀ hdt).1 (sub_lt_iff_lt_add.1 h1))
      (by rw [midpoint_eq]; exact (lt_div_iff₀ hdt).1 (lt_sub_iff_add_lt.1 h2)))
    (fun k hk => by
      obtain ⟨h1, h2⟩ := hout _ hk
      rw [midpoint_eq] at h1 h2
      exact ⟨sub_le_iff_le_add.2 ((div_le_iff₀ hdt).2 h1), le_sub_iff_add_le.2 ((le_div_iff₀ hdt).2 h2)⟩)
  have e : ∀ c : α, c * dt - (b - a) = (c - (b / dt - 1 / 2 - (a / dt - 1 / 2))) * dt := fun c => by
    rw [sub_sub_sub_cancel_right, sub_mul, sub_mul, div_mul_cancel₀ _ hdt.ne', div_mul_cancel₀ _ hdt.ne']
  rw [e, abs_mul, abs_of_pos hdt]
  exact mul_le_of_le_one_left hdt.le h

/-- an interval of the ray: membership test and end points -/
structure Piece (α : Type) where
  mem : α → Bool
  lo : α
  hi : α

/-- `mem` is only sandwiched between the open and the closed interval, so a piece may be open, closed or half-open -/
def Piece.ok (I : Piece α) (L : α) : Prop :=
  I.lo ≤ I.hi ∧ 0 ≤ I.lo ∧ I.hi ≤ L ∧ (∀ t, I.lo < t → t < I.hi → I.mem t = true) ∧
    (∀ t, I.mem t = true → I.lo ≤ t ∧ t ≤ I.hi)

theorem countP_or_disjoint {β : Type} (p q : β → Bool) (l : List β) (h : ∀ x ∈ l, ¬ (p x = true ∧ q x = true)) :
    l.countP (fun x => p x || q x) = l.countP p + l.countP q := by
  induction l with
  | nil => rfl
  | cons x xs ih =>
    have hx := h x List.mem_cons_self
    rw [List.countP_cons, List.countP_cons, List.countP_cons, ih fun y hy => h y (List.mem_cons_of_mem _ hy)]
    cases hp : p x <;> cases hq : q x
    · rfl
    · simp only [Bool.false_or, Bool.false_eq_true, if_true, if_false]; omega
    · simp only [Bool.true_or, Bool.false_eq_true, if_true, if_false]; omega
    · exact absurd ⟨hp, hq⟩ hx

/-- A set that is the union of `m` pairwise disjoint intervals of the ray (a ring cell crossed twice, the periodic
copies of a sector): `dt`·#samples differs from the total chord by at most `m·dt`.

PARTIAL with respect to the property sentence ("at most two integration steps" per cell): for `m ≥ 3` the bound `m·dt`
exceeds two steps and is attained up to ε (`three_intervals_exceed_two_dt`), so the literal clause is false for cells
met in three or more intervals (finding `C10:cyl:cell-error-exceeds-two-steps:multi-interval`); for `m = 2` it gives
`2·dt < 3·step` with `extra = 0` (`coarse_step_witness`) and `2·dt < 2·step` with `extra = 1`
(`two_interval_cell_two_steps_fixed`). For `m = 1` (every box cell, `cart_cell_convex`) it is `midpoint_count_error`. -/
theorem multi_interval_error_partial (dt : α) (n : Nat) (hdt : 0 < dt) :
    ∀ (Is : List (Piece α)), (∀ I ∈ Is, I.ok (n * dt)) →
      Is.Pairwise (fun I J => ∀ t, ¬ (I.mem t = true ∧ J.mem t = true)) →
      |(((List.range n).countP fun k => Is.any fun I => I.mem (midpoint dt k) : Nat) : α) * dt -
          (Is.map fun I => I.hi - I.lo).sum| ≤ (Is.length : α) * dt := by
  intro Is
  induction Is with
  | nil => intro _ _; simp
  | cons I Js ih =>
    intro hok hpw
    obtain ⟨hIJ, hpw'⟩ := List.pairwise_cons.mp hpw
    have hI := hok I (by simp)
    have h1 := midpoint_count_error dt I.lo I.hi n I.mem hdt hI.1 hI.2.1 hI.2.2.1 hI.2.2.2.1 hI.2.2.2.2
    have h2 := ih (fun J hJ => hok J (by simp [hJ])) hpw'
    simp only [List.any_cons]
    rw [countP_or_disjoint _ _ _ fun k _ ⟨hk1, hk2⟩ => by
      obtain ⟨J, hJ, hJm⟩ := List.any_eq_true.1 hk2
      exact hIJ J hJ _ ⟨hk1, hJm⟩]
    simp only [List.map_cons, List.sum_cons, List.length_cons]
    push_cast
    -- triangle inequality over the first piece and the rest
    refine (le_of_eq ?_).trans (((abs_add_le _ _).trans (add_le_add h1 h2)).trans_eq (by ring))
    congr 1
    ring

/-- With `extra = 1` a cell met in at most two intervals (every cell of a non-periodic cylindrical grid)
is within two integration steps, as the property sentence says. -/
theorem two_interval_cell_two_steps_fixed (trunc : α → Int) (ht : TruncSpec trunc) (ms : Int) (length step : α)
    (hms : 2 ≤ ms) (hstep : 0 < step) (hlen : 0 < length) (Is : List (Piece α)) (hm : Is.length ≤ 2)
    (hok : ∀ I ∈ Is, I.ok length)
    (hpw : Is.Pairwise (fun I J => ∀ t, ¬ (I.mem t = true ∧ J.mem t = true))) :
    let n := nSamples trunc 1 ms length step
    let dt := dtOf length n
    |(((List.range n.toNat).countP fun k => Is.any fun I => I.mem (midpoint dt k) : Nat) : α) * dt -
        (Is.map fun I => I.hi - I.lo).sum| ≤ 2 * step := by
  intro n dt
  obtain ⟨hn2, hnd, _, _⟩ := dt_bounds trunc ht 1 ms length step (by omega) hms hstep hlen.le
  have hlt : dt < step := dt_lt_step_fixed trunc ht ms length step hms hstep hlen.le
  have hdt : 0 < dt := dtOf_pos hlen (lt_of_lt_of_le (by decide) hn2)
  have h := multi_interval_error_partial dt n.toNat hdt Is (fun I hI => hnd.symm ▸ hok I hI) hpw
  have hm' : (Is.length : α) ≤ 2 := by exact_mod_cast hm
  exact h.trans (mul_le_mul hm' hlt.le hdt.le (by norm_num))

/-- With `extra = 0` (before /repo 0235f3b) the actual step can exceed the requested one: length 1, step 2/5 gives `n = 2`,
`dt = 1/2` — this is why two-interval cells can miss the two-step bound at coarse steps. -/
theorem coarse_step_witness :
    let trunc : ℚ → Int := fun x => if 0 ≤ x then ⌊x⌋ else ⌈x⌉
    nSamples trunc 0 2 1 (2 / 5) = 2 ∧ (2 / 5 : ℚ) < dtOf 1 (nSamples trunc 0 2 1 (2 / 5)) := by
  decide +kernel

/-- The `m·dt` bound is tight: three short intervals around the midpoints 1/2, 5/2, 9/2 (dt = 1, n = 6) each catch a sample;
the entry is 3 while the chord is 3/100 — an error of 2.97 > 2·dt.  No per-cell bound of two steps can hold for a
sampling integrator on cells met in three or more intervals. -/
theorem three_intervals_exceed_two_dt :
    let Is : List (Piece ℚ) := [⟨fun t => decide (49 / 100 ≤ t ∧ t ≤ 1 / 2), 49 / 100, 1 / 2⟩,
      ⟨fun t => decide (249 / 100 ≤ t ∧ t ≤ 5 / 2), 249 / 100, 5 / 2⟩,
      ⟨fun t => decide (449 / 100 ≤ t ∧ t ≤ 9 / 2), 449 / 100, 9 / 2⟩]
    (2 : ℚ) * 1 < |(((List.range 6).countP fun k => Is.any fun I => I.mem (midpoint (1 : ℚ) k) : Nat) : ℚ) * 1 -
        (Is.map fun I => I.hi - I.lo).sum| := by
  decide +kernel

theorem integrateWith_eq_naive {cellOf : α → α → α → Cell} {trunc : α → Int} {sqrt : α → α}
    {look : Cell → Option Int} {nbins : Nat} {extra : Int} {step : α} {ms : Int} (spec : Int → α) {s : Seg α} {p : Plan α}
    (hp : plan trunc sqrt extra step ms s = some p) (h0 : look (-1, -1, -1) = none)
    (hall : ∀ c ∈ sampleCells cellOf s p, ∃ src, look c = some src ∧ src < (nbins : Int)) :
    integrateWith cellOf trunc sqrt look nbins extra step ms spec s = some (naive look p.dt spec (sampleCells cellOf s p)) := by
  unfold integrateWith
  rw [hp]
  exact runlength_refines_naive look nbins p.dt spec _ h0 hall

/-- Closed form of `integrate` (either geometry): when no index leaves the voxel map, bin `j` receives `dt` times the
number of sample midpoints whose cell is mapped to `j`; the early return leaves the spectrum untouched. -/
theorem integrate_closed_form (cellOf : α → α → α → Cell) (trunc : α → Int) (sqrt : α → α)
    (look : Cell → Option Int) (nbins : Nat) (extra : Int) (step : α) (ms : Int) (spec : Int → α) (s : Seg α) (p : Plan α)
    (hp : plan trunc sqrt extra step ms s = some p) (h0 : look (-1, -1, -1) = none)
    (hall : ∀ c ∈ sampleCells cellOf s p, ∃ src, look c = some src ∧ src < (nbins : Int)) :
    integrateWith cellOf trunc sqrt look nbins extra step ms spec s =
      some fun j => spec j + (if j > -1 then
        (((List.range p.n.toNat).countP fun it => decide (look (cellOf (s.sx + p.ux * midpoint p.dt it)
          (s.sy + p.uy * midpoint p.dt it) (s.sz + p.uz * midpoint p.dt it)) = some j) : Nat) : α) * p.dt else 0) := by
  rw [integrateWith_eq_naive spec hp h0 hall]
  congr 1
  funext j
  rw [entry_closed_form, nsmul_eq_mul, sampleCells, List.countP_map]
  rfl

/-- Headline bound for one cell / source: if the set of path parameters `t` whose cell is mapped to `j` is one interval
`[a, b]` of the path (open, closed or half-open), the entry exceeds the initial value by the chord `b - a` up to `dt`. -/
theorem cell_entry_error (cellOf : α → α → α → Cell) (trunc : α → Int) (sqrt : α → α)
    (look : Cell → Option Int) (nbins : Nat) (extra : Int) (step : α) (ms : Int) (spec : Int → α) (s : Seg α) (p : Plan α)
    (hp : plan trunc sqrt extra step ms s = some p) (h0 : look (-1, -1, -1) = none)
    (hall : ∀ c ∈ sampleCells cellOf s p, ∃ src, look c = some src ∧ src < (nbins : Int))
    (j : Int) (hj : j > -1) (a b : α) (hdt : 0 < p.dt) (hab : a ≤ b) (ha : 0 ≤ a) (hb : b ≤ (p.n.toNat : α) * p.dt)
    (hin : ∀ t, a < t → t < b → look (cellOf (s.sx + p.ux * t) (s.sy + p.uy * t) (s.sz + p.uz * t)) = some j)
    (hout : ∀ t, look (cellOf (s.sx + p.ux * t) (s.sy + p.uy * t) (s.sz + p.uz * t)) = some j → a ≤ t ∧ t ≤ b) :
    ∃ out, integrateWith cellOf trunc sqrt look nbins extra step ms spec s = some out ∧
      |out j - spec j - (b - a)| ≤ p.dt := by
  refine ⟨_, integrate_closed_form cellOf trunc sqrt look nbins extra step ms spec s p hp h0 hall, ?_⟩
  simp only [hj, if_true, add_sub_cancel_left]
  exact midpoint_count_error p.dt a b p.n.toNat
    (fun t => decide (look (cellOf (s.sx + p.ux * t) (s.sy + p.uy * t) (s.sz + p.uz * t)) = some j))
    hdt hab ha hb (fun t h1 h2 => by simpa using hin t h1 h2) (fun t h => hout t (by simpa using h))

/-- all traversed cells active: the entries add up to the path length exactly (`n·dt = length`) -/
theorem total_is_length (look : Cell → Option Int) (bins : Nat) (length : α) (cells : List Cell)
    (hne : cells ≠ []) (hall : ∀ c ∈ cells, ∃ s, look c = some s ∧ s > -1 ∧ s < (bins : Int)) :
    (Finset.range bins).sum (fun j => naive look (length / (cells.length : α)) (fun _ => 0) cells (j : Int)) = length := by
  have hlen : (cells.length : α) ≠ 0 := Nat.cast_ne_zero.2 (List.length_pos_of_ne_nil hne).ne'
  rw [total_all_active look bins _ cells _ hall, nsmul_eq_mul, Finset.sum_const_zero, zero_add, mul_div_cancel₀ _ hlen]

/-- path length as `integrate` computes it -/
def segLength (sqrt : α → α) (s : Seg α) : α :=
  sqrt ((s.ex - s.sx) * (s.ex - s.sx) + (s.ey - s.sy) * (s.ey - s.sy) + (s.ez - s.sz) * (s.ez - s.sz))

/-- what `plan` returns when the path is not skipped -/
theorem plan_spec (trunc : α → Int) (sqrt : α → α) (extra : Int) (step : α) (ms : Int) (s : Seg α) (p : Plan α)
    (hp : plan trunc sqrt extra step ms s = some p) :
    ¬ (segLength sqrt s < 0.1 * step) ∧ p.n = nSamples trunc extra ms (segLength sqrt s) step ∧
      p.dt = dtOf (segLength sqrt s) p.n := by
  unfold plan at hp
  simp only at hp
  split_ifs at hp with h
  have := Option.some.inj hp
  subst this
  exact ⟨h, rfl, rfl⟩

/-- **Σ of the matrix entries of one ray segment = path length**, for every sample count (any step, any `min_samples ≥ 2`,
either rounding rule), every grid shape and every voxel map that maps all traversed cells to sources: the entries a
segment contributes add up to its length exactly (`n·dt = length`). -/
theorem integrate_total_is_length (cellOf : α → α → α → Cell) (trunc : α → Int) (ht : TruncSpec trunc) (sqrt : α → α)
    (hsq : ∀ x, 0 ≤ sqrt x) (look : Cell → Option Int) (nbins : Nat) (extra : Int) (hex : 0 ≤ extra) (step : α)
    (hstep : 0 < step) (ms : Int) (hms : 2 ≤ ms) (spec : Int → α) (s : Seg α) (p : Plan α)
    (hp : plan trunc sqrt extra step ms s = some p) (h0 : look (-1, -1, -1) = none)
    (hall : ∀ c ∈ sampleCells cellOf s p, ∃ src, look c = some src ∧ src > -1 ∧ src < (nbins : Int)) :
    ∃ out, integrateWith cellOf trunc sqrt look nbins extra step ms spec s = some out ∧
      (Finset.range nbins).sum (fun j => out (j : Int)) =
        (Finset.range nbins).sum (fun j => spec (j : Int)) + segLength sqrt s := by
  obtain ⟨_, hn, hdt⟩ := plan_spec trunc sqrt extra step ms s p hp
  refine ⟨_, integrateWith_eq_naive spec hp h0 (fun c hc => by
    obtain ⟨src, h1, _, h3⟩ := hall c hc; exact ⟨src, h1, h3⟩), ?_⟩
  obtain ⟨_, hnd, _, _⟩ := dt_bounds trunc ht extra ms (segLength sqrt s) step hex hms hstep (hsq _)
  rw [total_all_active look nbins p.dt _ spec hall, nsmul_eq_mul, sampleCells, List.length_map, List.length_range,
    hdt, hn, hnd]

/-- **One interval of ray ∩ cell ⇒ within two integration steps** (strictly), for the whole `integrate`, any sample
count: every box cell (`cart_cell_convex`) and every cylindrical cell met once.  The multi-interval counterpart is false:
`three_intervals_exceed_two_dt`. -/
theorem integrate_cell_two_steps (cellOf : α → α → α → Cell) (trunc : α → Int) (ht : TruncSpec trunc) (sqrt : α → α)
    (hsq : ∀ x, 0 ≤ sqrt x) (look : Cell → Option Int) (nbins : Nat) (extra : Int) (hex : 0 ≤ extra) (step : α)
    (hstep : 0 < step) (ms : Int) (hms : 2 ≤ ms) (spec : Int → α) (s : Seg α) (p : Plan α)
    (hp : plan trunc sqrt extra step ms s = some p) (h0 : look (-1, -1, -1) = none)
    (hall : ∀ c ∈ sampleCells cellOf s p, ∃ src, look c = some src ∧ src < (nbins : Int))
    (j : Int) (hj : j > -1) (a b : α) (hab : a ≤ b) (ha : 0 ≤ a) (hb : b ≤ segLength sqrt s)
    (hin : ∀ t, a < t → t < b → look (cellOf (s.sx + p.ux * t) (s.sy + p.uy * t) (s.sz + p.uz * t)) = some j)
    (hout : ∀ t, look (cellOf (s.sx + p.ux * t) (s.sy + p.uy * t) (s.sz + p.uz * t)) = some j → a ≤ t ∧ t ≤ b) :
    ∃ out, integrateWith cellOf trunc sqrt look nbins extra step ms spec s = some out ∧
      |out j - spec j - (b - a)| < 2 * step := by
  obtain ⟨hshort, hn, hdt⟩ := plan_spec trunc sqrt extra step ms s p hp
  obtain ⟨hn2, hnd, _, hlt⟩ := dt_bounds trunc ht extra ms (segLength sqrt s) step hex hms hstep (hsq _)
  rw [← hn] at hnd hlt hn2
  rw [← hdt] at hnd hlt
  have hLpos : 0 < segLength sqrt s :=
    lt_of_lt_of_le (mul_pos (by norm_num) hstep) (not_lt.mp hshort)
  have hdtpos : 0 < p.dt := hdt ▸ dtOf_pos hLpos (lt_of_lt_of_le (by decide) hn2)
  obtain ⟨out, ho, hb'⟩ := cell_entry_error cellOf trunc sqrt look nbins extra step ms spec s p hp h0 hall j hj a b hdtpos hab ha
    (by rw [hnd]; exact hb) hin hout
  exact ⟨out, ho, lt_of_le_of_lt hb' hlt⟩

/-- a coordinate inside the grid gives an index inside the voxel map -/
theorem cart_index_in_range (trunc : α → Int) (ht : TruncSpec trunc) (x dx : α) (nx : Nat) (hdx : 0 < dx)
    (hx0 : 0 ≤ x) (hx1 : x < nx * dx) : 0 ≤ trunc (x / dx) ∧ trunc (x / dx) < (nx : Int) := by
  have hq : 0 ≤ x / dx := div_nonneg hx0 hdx.le
  rw [(ht _).1 hq]
  refine ⟨Int.floor_nonneg.mpr hq, ?_⟩
  rw [Int.floor_lt]; push_cast
  rwa [div_lt_iff₀ hdx]

/-- truncation also absorbs a slightly negative coordinate (rounding at the lower face, which is not shrunk) -/
theorem cart_index_negative_side (trunc : α → Int) (ht : TruncSpec trunc) (x dx : α) (hdx : 0 < dx)
    (hx0 : -dx < x) (hx1 : x < 0) : trunc (x / dx) = 0 := by
  have hq : x / dx < 0 := div_neg_of_neg_of_pos hx1 hdx
  rw [(ht _).2 hq, Int.ceil_eq_iff, Int.cast_zero, zero_sub, lt_div_iff₀ hdx, neg_one_mul]
  exact ⟨hx0, hq.le⟩

/-- the upper corner of the bounding `Box` (`xmax - 1e-5·dx`) lies strictly inside the grid -/
theorem box_upper_inside_grid (xmax ymax zmax : α) (nx ny nz : Nat) (hx : 0 < xmax) (hy : 0 < ymax) (hz : 0 < zmax)
    (hnx : 0 < nx) (hny : 0 < ny) (hnz : 0 < nz) :
    let g := boxGeom xmax ymax zmax nx ny nz
    0 < g.dx ∧ 0 < g.dy ∧ 0 < g.dz ∧ g.ux < nx * g.dx ∧ g.uy < ny * g.dy ∧ g.uz < nz * g.dz ∧
      0 < g.ux ∧ 0 < g.uy ∧ 0 < g.uz := by
  obtain ⟨dx, ux, px⟩ := shrunk_upper shrink_margin hx hnx
  obtain ⟨dy, uy, py⟩ := shrunk_upper shrink_margin hy hny
  obtain ⟨dz, uz, pz⟩ := shrunk_upper shrink_margin hz hnz
  exact ⟨dx, dy, dz, ux, uy, uz, px, py, pz⟩

/-- radial index of a point between the two bounding cylinders -/
theorem cyl_r_index_in_range (trunc : α → Int) (ht : TruncSpec trunc) (r rmin dr : α) (nr : Nat) (hdr : 0 < dr)
    (h0 : rmin ≤ r) (h1 : r < rmin + nr * dr) :
    0 ≤ trunc ((r - rmin) / dr) ∧ trunc ((r - rmin) / dr) < (nr : Int) :=
  cart_index_in_range trunc ht (r - rmin) dr nr hdr (sub_nonneg.2 h0) (sub_lt_iff_lt_add'.2 h1)

theorem axis_index_mono_or_anti {trunc : α → Int} (ht : TruncSpec trunc) (s u : α) {d : α} (hd : 0 < d) :
    Monotone (fun t => trunc ((s + u * t) / d)) ∨ Antitone (fun t => trunc ((s + u * t) / d)) := by
  rcases le_total 0 u with hu | hu
  · exact Or.inl fun a b h => trunc_mono trunc ht
      (div_le_div_of_nonneg_right (add_le_add_right (mul_le_mul_of_nonneg_left h hu) s) hd.le)
  · exact Or.inr fun a b h => trunc_mono trunc ht
      (div_le_div_of_nonneg_right (add_le_add_right (mul_le_mul_of_nonpos_left h hu) s) hd.le)

/-- Along a straight line the Cartesian cell index is monotone in each coordinate, so the set of path parameters lying
in a given box cell is convex: a box cell meets the ray in ONE interval. -/
theorem cart_cell_convex (trunc : α → Int) (ht : TruncSpec trunc) (dx dy dz : α) (hdx : 0 < dx) (hdy : 0 < dy)
    (hdz : 0 < dz) (sx sy sz ux uy uz : α) (c : Cell) (t1 t2 t3 : α) (h12 : t1 ≤ t2) (h23 : t2 ≤ t3)
    (h1 : cartCell trunc dx dy dz (sx + ux * t1) (sy + uy * t1) (sz + uz * t1) = c)
    (h3 : cartCell trunc dx dy dz (sx + ux * t3) (sy + uy * t3) (sz + uz * t3) = c) :
    cartCell trunc dx dy dz (sx + ux * t2) (sy + uy * t2) (sz + uz * t2) = c := by
  obtain ⟨c1, c2, c3⟩ := c
  simp only [cartCell, Prod.mk.injEq] at h1 h3 ⊢
  exact ⟨eq_between_of_mono_or_anti (axis_index_mono_or_anti ht sx ux hdx) h12 h23 h1.1 h3.1,
    eq_between_of_mono_or_anti (axis_index_mono_or_anti ht sy uy hdy) h12 h23 h1.2.1 h3.2.1,
    eq_between_of_mono_or_anti (axis_index_mono_or_anti ht sz uz hdz) h12 h23 h1.2.2 h3.2.2⟩

/-- squared distance from the axis along the path -/
def rsq (sx sy ux uy t : α) : α := (sx + ux * t) * (sx + ux * t) + (sy + uy * t) * (sy + uy * t)

/-- the squared radius is a convex function of the path parameter: its sub-level sets are convex -/
theorem rsq_sublevel_convex (sx sy ux uy K t1 t2 t3 : α) (h12 : t1 ≤ t2) (h23 : t2 ≤ t3)
    (h1 : rsq sx sy ux uy t1 < K) (h3 : rsq sx sy ux uy t3 < K) : rsq sx sy ux uy t2 < K := by
  refine lt_of_three_point (f := rsq sx sy ux uy) h12 h23 (sub_nonneg.1 ?_) h1 h3
  -- the convexity defect of the quadratic is its leading coefficient times the three gaps
  have hid : (t3 - t2) * rsq sx sy ux uy t1 + (t2 - t1) * rsq sx sy ux uy t3 - (t3 - t1) * rsq sx sy ux uy t2 =
      (ux * ux + uy * uy) * ((t2 - t1) * (t3 - t2) * (t3 - t1)) := by unfold rsq; ring
  rw [hid]
  exact mul_nonneg (add_nonneg (mul_self_nonneg ux) (mul_self_nonneg uy))
    (mul_nonneg (mul_nonneg (sub_nonneg.2 h12) (sub_nonneg.2 h23)) (sub_nonneg.2 (h12.trans h23)))

/-- A ring `lo ≤ r² < hi` meets a straight path in at most two intervals: the pattern in – out – in – out – in is
impossible.  (With a convex φ-sector, `dphi ≤ 180°`, and a z-slab, a cell of a grid whose period is 360° is therefore met
in at most two intervals; the periodic copies of a sector are what produces three or more.) -/
theorem ring_at_most_two_intervals (sx sy ux uy lo hi t1 t2 t3 t4 t5 : α)
    (h12 : t1 ≤ t2) (h23 : t2 ≤ t3) (h34 : t3 ≤ t4) (h45 : t4 ≤ t5)
    (i1 : lo ≤ rsq sx sy ux uy t1 ∧ rsq sx sy ux uy t1 < hi)
    (o2 : ¬ (lo ≤ rsq sx sy ux uy t2 ∧ rsq sx sy ux uy t2 < hi))
    (i3 : lo ≤ rsq sx sy ux uy t3 ∧ rsq sx sy ux uy t3 < hi)
    (o4 : ¬ (lo ≤ rsq sx sy ux uy t4 ∧ rsq sx sy ux uy t4 < hi))
    (i5 : lo ≤ rsq sx sy ux uy t5 ∧ rsq sx sy ux uy t5 < hi) : False := by
  -- t2 and t4 are inside the outer circle (convexity), hence inside the inner one
  have b2 : rsq sx sy ux uy t2 < hi := rsq_sublevel_convex sx sy ux uy hi t1 t2 t3 h12 h23 i1.2 i3.2
  have b4 : rsq sx sy ux uy t4 < hi := rsq_sublevel_convex sx sy ux uy hi t3 t4 t5 h34 h45 i3.2 i5.2
  have c2 : rsq sx sy ux uy t2 < lo := by
    by_contra h; exact o2 ⟨not_lt.mp h, b2⟩
  have c4 : rsq sx sy ux uy t4 < lo := by
    by_contra h; exact o4 ⟨not_lt.mp h, b4⟩
  have c3 : rsq sx sy ux uy t3 < lo := rsq_sublevel_convex sx sy ux uy lo t2 t3 t4 h23 h34 c2 c4
  linarith [i3.1]

/-- C99 `fmod` contract for a positive modulus -/
def FmodSpec (fmod : α → α → α) : Prop :=
  ∀ x p : α, 0 < p → (∃ k : ℤ, fmod x p = x - k * p) ∧ |fmod x p| < p ∧ (0 ≤ x → 0 ≤ fmod x p)

theorem fmod_unique (fmod : α → α → α) (hf : FmodSpec fmod) (x p : α) (k : ℤ) (hp : 0 < p) (hx : 0 ≤ x)
    (hx' : 0 ≤ x + k * p) : fmod (x + k * p) p = fmod x p := by
  obtain ⟨⟨k1, e1⟩, a1, n1⟩ := hf x p hp
  obtain ⟨⟨k2, e2⟩, a2, n2⟩ := hf (x + k * p) p hp
  refine eq_of_sub_eq_int_mul _ _ p (k - k2 + k1) (n2 hx') (abs_lt.1 a2).2 (n1 hx) (abs_lt.1 a1).2 ?_
  rw [e1, e2]; push_cast; ring

/-- The φ index repeats with the stated period: adding any whole number of periods to the angle (as a rotation of the
ray about the axis by the period does, modulo 360 = N·period) leaves the cell index unchanged. -/
theorem phi_periodic (trunc : α → Int) (fmod : α → α → α) (hf : FmodSpec fmod) (nphi : Nat) (dphi period phi : α)
    (k : ℤ) (hp : 0 < period) (h1 : 0 ≤ phi + 360) (h2 : 0 ≤ phi + k * period + 360) :
    phiIndex trunc fmod nphi dphi period (phi + k * period) = phiIndex trunc fmod nphi dphi period phi := by
  unfold phiIndex
  split_ifs
  · rfl
  · rw [add_right_comm, fmod_unique fmod hf (phi + 360.0) period k hp ((literal_360 (α := α)).symm ▸ h1)
      (by rw [literal_360, add_right_comm]; exact h2)]

/-- … and the index stays inside the voxel map: `0 ≤ iphi < nphi` when `period = nphi·dphi` -/
theorem phi_index_in_range (trunc : α → Int) (ht : TruncSpec trunc) (fmod : α → α → α) (hf : FmodSpec fmod)
    (nphi : Nat) (dphi period phi : α) (hn : 0 < nphi) (hd : 0 < dphi) (hper : period = nphi * dphi)
    (h1 : 0 ≤ phi + 360) :
    0 ≤ phiIndex trunc fmod nphi dphi period phi ∧ phiIndex trunc fmod nphi dphi period phi < (nphi : Int) := by
  unfold phiIndex
  split_ifs with h
  · omega
  · have hp : 0 < period := hper ▸ mul_pos (Nat.cast_pos.2 hn) hd
    obtain ⟨_, a1, n1⟩ := hf (phi + 360.0) period hp
    exact cart_index_in_range trunc ht _ dphi nphi hd (n1 ((literal_360 (α := α)).symm ▸ h1)) (hper ▸ (abs_lt.mp a1).2)

end field

/-- the emitter's three copies of the map agree: what `integrate` reads is what the getters show, `bins = max + 1` -/
def EmitterConsistent (st : EmitterState) : Prop :=
  st.mv = st.vmap ∧ st.nbins = bins st.vmap ∧ st.vmap.length = ncells st.shape

theorem emitter_apply_cases (st : EmitterState) (op : MapOp) :
    st.apply op = (st, false) ∨
      ∃ d, d = (match op with | .voxelMap _ d => d | .mask _ d => mapFromMask d) ∧ d.length = ncells st.shape ∧
        st.apply op = ({ st with vmap := d, mv := d, nbins := bins d }, true) := by
  cases op with
  | voxelMap sh data | mask sh data =>
    simp only [EmitterState.apply]
    split_ifs with hc
    · exact Or.inl rfl
    · push Not at hc
      exact Or.inr ⟨_, rfl, by simp only [mapFromMask_length, hc.2, hc.1], rfl⟩

/-- a rejected map write (wrong shape / size) leaves the emitter exactly as it was -/
theorem emitter_rejected_write_unchanged (st : EmitterState) (op : MapOp) (h : (st.apply op).2 = false) :
    (st.apply op).1 = st := by
  rcases emitter_apply_cases st op with e | ⟨d, -, -, e⟩
  · rw [e]
  · rw [e] at h; cases h

/-- an accepted map write installs the assigned map everywhere at once (no stale memoryview, no stale `bins`) -/
theorem emitter_accepted_write (st : EmitterState) (op : MapOp) (h : (st.apply op).2 = true) :
    EmitterConsistent (st.apply op).1 ∧ (st.apply op).1.shape = st.shape ∧
      (st.apply op).1.mv = (match op with | .voxelMap _ d => d | .mask _ d => mapFromMask d) := by
  rcases emitter_apply_cases st op with e | ⟨d, hd, hl, e⟩
  · rw [e] at h; cases h
  · rw [e]
    refine ⟨⟨rfl, rfl, hl⟩, rfl, hd.trans ?_⟩
    -- the `match` of the statement also abstracts `h`; both reduce once `op` is a constructor
    cases op <;> rfl

theorem emitter_apply_shape (st : EmitterState) (op : MapOp) : (st.apply op).1.shape = st.shape := by
  cases hb : (st.apply op).2 with
  | false => rw [emitter_rejected_write_unchanged st op hb]
  | true => exact (emitter_accepted_write st op hb).2.1

theorem emitter_apply_consistent (st : EmitterState) (h : EmitterConsistent st) (op : MapOp) :
    EmitterConsistent (st.apply op).1 := by
  cases hb : (st.apply op).2 with
  | false => rwa [emitter_rejected_write_unchanged st op hb]
  | true => exact (emitter_accepted_write st op hb).1

theorem emitter_history_shape (st : EmitterState) (ops : List MapOp) : (st.run ops).shape = st.shape := by
  induction ops generalizing st with
  | nil => rfl
  | cons op ops ih => exact (ih (st.apply op).1).trans (emitter_apply_shape st op)

/-- **for every history of map writes (accepted or rejected, in any order) the emitter stays consistent**: the map the
integrator reads, the `voxel_map` / `mask` getters and `bins` never drift apart (no stale memoryview,
no trace of a rejected write) -/
theorem emitter_history_consistent (st : EmitterState) (h : EmitterConsistent st) (ops : List MapOp) :
    EmitterConsistent (st.run ops) ∧ (st.run ops).shape = st.shape := by
  refine ⟨?_, emitter_history_shape st ops⟩
  induction ops generalizing st with
  | nil => exact h
  | cons op ops ih => exact ih (st.apply op).1 (emitter_apply_consistent st h op)

theorem emitter_new_consistent (sh : Nat × Nat × Nat) : EmitterConsistent (EmitterState.new sh) := by
  refine ⟨rfl, rfl, ?_⟩
  show (mapFromMask (List.replicate (ncells sh) true)).length = ncells sh
  rw [mapFromMask_length, List.length_replicate]

/-- the last accepted write decides the map: after any history, a final accepted `voxel_map` assignment gives exactly
the state of a fresh emitter that received that map (history independence = the S oracle of the setter stream) -/
theorem emitter_last_write_wins (st : EmitterState) (ops : List MapOp) (sh : Nat × Nat × Nat) (data : List Int)
    (hsh : sh = st.shape) (hlen : data.length = ncells sh) :
    (st.run (ops ++ [MapOp.voxelMap sh data])) = ((EmitterState.new sh).apply (MapOp.voxelMap sh data)).1 := by
  have hok : ∀ st' : EmitterState, st'.shape = sh → st'.apply (MapOp.voxelMap sh data) =
      ({ st' with vmap := data, mv := data, nbins := bins data }, true) := fun st' h =>
    if_neg (by push Not; exact ⟨h.symm, hlen⟩)
  have hs := (emitter_history_shape st ops).trans hsh.symm
  rw [EmitterState.run, List.foldl_append]
  show ((st.run ops).apply (MapOp.voxelMap sh data)).1 = _
  rw [hok _ hs, hok _ rfl, EmitterState.mk.injEq]
  exact ⟨hs, rfl, rfl, rfl⟩

section histories
variable {α : Type} [Field α] [LinearOrder α] [IsStrictOrderedRing α]

/-- the integrator is usable: positive step, at least two samples (the hypotheses of `dt_bounds`) -/
def IntegValid (st : IntegState α) : Prop := 0 < st.step ∧ 2 ≤ st.minSamples

theorem integ_apply_cases (st : IntegState α) (op : IntegOp α) :
    (∃ v, op = .step v ∧ v ≤ 0 ∧ st.apply op = .raised st) ∨
    (∃ v, op = .step v ∧ 0 < v ∧ st.apply op = .ok { st with step := v }) ∨
    (∃ v, op = .minSamples v ∧ v < 2 ∧ st.apply op = .raised st) ∨
    (∃ v, op = .minSamples v ∧ 2 ≤ v ∧ st.apply op = .ok { st with minSamples := v }) := by
  cases op with
  | step v =>
    rcases le_or_gt v 0 with hv | hv
    · exact Or.inl ⟨v, rfl, hv, if_pos hv⟩
    · exact Or.inr (Or.inl ⟨v, rfl, hv, if_neg (not_le.2 hv)⟩)
  | minSamples v =>
    rcases lt_or_ge v 2 with hv | hv
    · exact Or.inr (Or.inr (Or.inl ⟨v, rfl, hv, if_pos hv⟩))
    · exact Or.inr (Or.inr (Or.inr ⟨v, rfl, hv, if_neg (not_lt.2 hv)⟩))

/-- a rejected `step` / `min_samples` write leaves the integrator exactly as it was -/
theorem integ_rejected_write_unchanged (st : IntegState α) (op : IntegOp α) (h : (st.apply op).isOk = false) :
    (st.apply op).state = st := by
  rcases integ_apply_cases st op with ⟨v, -, -, e⟩ | ⟨v, -, -, e⟩ | ⟨v, -, -, e⟩ | ⟨v, -, -, e⟩
  · rw [e]; rfl
  · rw [e] at h; cases h
  · rw [e]; rfl
  · rw [e] at h; cases h

/-- a write is rejected exactly when the value is invalid -/
theorem integ_write_rejected_iff (st : IntegState α) (op : IntegOp α) :
    (st.apply op).isOk = false ↔ (match op with | .step v => v ≤ 0 | .minSamples v => v < 2) := by
  rcases integ_apply_cases st op with ⟨v, rfl, hv, e⟩ | ⟨v, rfl, hv, e⟩ | ⟨v, rfl, hv, e⟩ | ⟨v, rfl, hv, e⟩
  · rw [e]; exact ⟨fun _ => hv, fun _ => rfl⟩
  · rw [e]; exact ⟨fun h => Bool.noConfusion h, fun h => absurd hv (not_lt.2 h)⟩
  · rw [e]; exact ⟨fun _ => hv, fun _ => rfl⟩
  · rw [e]; exact ⟨fun h => Bool.noConfusion h, fun h => absurd hv (not_le.2 h)⟩

theorem integ_apply_valid (st : IntegState α) (h : IntegValid st) (op : IntegOp α) : IntegValid (st.apply op).state := by
  rcases integ_apply_cases st op with ⟨v, -, -, e⟩ | ⟨v, -, hv, e⟩ | ⟨v, -, -, e⟩ | ⟨v, -, hv, e⟩
  · rw [e]; exact h
  · rw [e]; exact ⟨hv, h.2⟩
  · rw [e]; exact h
  · rw [e]; exact ⟨h.1, hv⟩

/-- **for every history of writes inside try/except the integrator stays valid**, so `dt_bounds` / `dt_lt_step_fixed`
apply to every `integrate` call that follows, whatever was attempted before -/
theorem integ_history_valid (st : IntegState α) (h : IntegValid st) (ops : List (IntegOp α)) : IntegValid (st.run ops) := by
  induction ops generalizing st with
  | nil => exact h
  | cons op ops ih => exact ih (st.apply op).state (integ_apply_valid st h op)

/-- `observe()` starts from `initialise`, which overwrites every field: the pipeline after an observe does not depend on
what the pipeline went through before -/
theorem pipe0D_observe_history_independent (p q : Pipe0D α) (bins : Nat) (rs : List (List α × Nat)) :
    p.observe bins rs = q.observe bins rs := rfl

/-- **repeated observe on one pipeline = fresh pipeline** (the sample counter does not carry over), for every history -/
theorem pipe0D_repeated_observe_eq_fresh (hist : List (Nat × List (List α × Nat))) (bins : Nat)
    (rs : List (List α × Nat)) :
    (hist.foldl (fun p h => p.observe h.1 h.2) Pipe0D.new).observe bins rs = Pipe0D.new.observe bins rs :=
  pipe0D_observe_history_independent _ _ bins rs

theorem pipe1D_repeated_observe_eq_fresh (hist : List (Nat × Nat × Nat × List (Nat × List α))) (px ps bins : Nat)
    (rs : List (Nat × List α)) :
    (hist.foldl (fun p h => p.observe h.1 h.2.1 h.2.2.1 h.2.2.2) Pipe1D.new).observe px ps bins rs =
      Pipe1D.new.observe px ps bins rs := rfl

theorem pipe0D_fold (rs : List (List α × Nat)) : ∀ q : Pipe0D α,
    (rs.foldl (fun q r => q.update r.1 r.2) q).samples = q.samples + (rs.map Prod.snd).sum ∧
    (rs.foldl (fun q r => q.update r.1 r.2) q).matrix = rs.foldl (fun m r => List.zipWith (· + ·) m r.1) q.matrix := by
  induction rs with
  | nil => intro q; simp
  | cons r rs ih =>
    intro q
    obtain ⟨h1, h2⟩ := ih (q.update r.1 r.2)
    simp only [List.foldl_cons, List.map_cons, List.sum_cons]
    exact ⟨by rw [h1]; simp [Pipe0D.update]; ring, by rw [h2]; rfl⟩

/-- what an observe leaves in the 0D pipeline: the bin-wise sum of the packed results divided by the total number of
samples of THIS observe -/
theorem pipe0D_observe_is_mean (p : Pipe0D α) (bins : Nat) (rs : List (List α × Nat)) :
    (p.observe bins rs).samples = (rs.map Prod.snd).sum ∧
    (p.observe bins rs).matrix =
      (rs.foldl (fun m r => List.zipWith (· + ·) m r.1) (List.replicate bins 0)).map
        (· / (((rs.map Prod.snd).sum : Nat) : α)) := by
  obtain ⟨h1, h2⟩ := pipe0D_fold rs (p.initialise bins)
  -- `initialise` has set the counter to 0 and the matrix to zeros
  replace h1 := h1.trans (Nat.zero_add _)
  refine ⟨h1, ?_⟩
  show List.map _ _ = _
  rw [h2, h1]
  rfl

end histories

/-! ## non-vacuity -/

example : ((EmitterState.new (2, 1, 1)).apply (MapOp.voxelMap (1, 2, 1) [0, 0])).2 = false ∧
    ((EmitterState.new (2, 1, 1)).apply (MapOp.voxelMap (2, 1, 1) [3, -1])).2 = true ∧
    ((EmitterState.new (2, 1, 1)).run [MapOp.voxelMap (1, 2, 1) [0, 0], MapOp.mask (2, 1, 1) [false, true]]).mv = [-1, 0] := by
  decide

example : ((⟨1 / 10, 2⟩ : IntegState ℚ).run [IntegOp.step 0, IntegOp.step (-1), IntegOp.minSamples 1, IntegOp.step (1 / 2)]).step = 1 / 2 ∧
    ((⟨1 / 10, 2⟩ : IntegState ℚ).apply (IntegOp.step 0)).isOk = false := by
  decide +kernel

/-- second observe with 3 samples after a first one with 2: the mean is over 3, not 5 -/
example : (((Pipe0D.new : Pipe0D ℚ).observe 1 [([4], 2)]).observe 1 [([6], 3)]).matrix = [2] := by
  decide +kernel

/-- a 2×1×1 grid, second cell inactive: samples in cells 0,0,1,0 with dt = 1/4 — the accumulator and the naive spec agree
and give 3/4 to source 0 -/
example :
    let look : Cell → Option Int := fun c => if c = (0, 0, 0) then some 0 else if c = (1, 0, 0) then some (-1) else none
    (accumulate look 1 (1 / 4 : ℚ) (fun _ => 0) [(0, 0, 0), (0, 0, 0), (1, 0, 0), (0, 0, 0)]).map (fun f => f 0)
      = some (3 / 4) := by
  decide +kernel

example : mapFromMask [true, false, true, true, false] = [0, -1, 1, 2, -1] := by decide
example : bins (mapFromMask [true, false, true, true, false]) = some 3 := by decide

/-- on the truncation of `truncSpec_witness`: `<int>(1 / 0.3) = 3` -/
example : nSamples (fun x : ℚ => if 0 ≤ x then ⌊x⌋ else ⌈x⌉) 0 2 1 (3 / 10) = 3 := by
  decide +kernel

/-- a sandwiched interval: midpoints 1/8, 3/8, 5/8, 7/8 of [0,1] in [1/4, 3/4): two of them, 2·(1/4) = 1/2 exactly -/
example : ((List.range 4).countP fun k => decide ((1 / 4 : ℚ) ≤ midpoint (1 / 4) k ∧ midpoint (1 / 4 : ℚ) k < 3 / 4)) = 2 := by
  decide +kernel

/-- non-vacuity of `integrate_total_is_length` / `integrate_cell_two_steps`: a 2×1×1 box of unit cells, the ray along x
through both cells, step 1 (rule with `extra = 1`: n = 3, dt = 2/3): entries 2/3 and 4/3, total 2 = path length, each within
dt of the unit chord -/
example :
    let trunc : ℚ → Int := fun x => if 0 ≤ x then ⌊x⌋ else ⌈x⌉
    let sqrt : ℚ → ℚ := fun x => if x = 4 then 2 else 0
    let look : Cell → Option Int := fun c => if c = (0, 0, 0) then some 0 else if c = (1, 0, 0) then some 1 else none
    (integrateCart trunc sqrt look 2 1 1 1 1 1 2 (fun _ => 0) ⟨0, 1 / 2, 1 / 2, 2, 1 / 2, 1 / 2⟩).map (fun f => (f 0, f 1))
      = some (2 / 3, 4 / 3) := by
  decide +kernel

end Cherab.Props.C10
