import Cherab.Props.C19

/-!
# C19: the integer lookup is a total decision function

`lookup_element(n)` for an `int` n goes through `str(n).lower()` and the same dictionary as the string lookups
(elements.pyx `lookup_element`: `_element_index[str(v).lower()]`).  `lookup_element_int_decision_partial` stops at "the
numeral is one of e's keys"; with `str` injective on ints, `lower` fixing numerals and the last byte of a numeral being a
digit (Lemmas/RegistryStr.lean) plus one table check (no lower-cased symbol or name ends in a digit) it closes.
-/

namespace Cherab.Props.C19

open Cherab.Registry Cherab.Gen.Elements

/-- no element's lower-cased symbol or name ends in a decimal digit (so a numeral never collides with them) -/
def chkNoDigitEnd : Bool := elements.all fun e => !endsInDigit (lower e.sym) && !endsInDigit (lower e.name)

theorem chk_no_digit_end : chkNoDigitEnd = true := by decide +kernel

/-- **`lookup_element(n)` for every Python int n** (negative, zero, huge included): it returns `e` exactly when `e` is an
exported element and `n` is its atomic number; in particular an int never reaches an element through its name or symbol key
and two different ints never reach the same element.  Sharpens `lookup_element_int_decision_partial`. -/
theorem lookup_element_int_decision (n : Int) (e : El) :
    lookupElement elementIndex (.int n) = some e ↔ e ∈ elements ∧ n = (e.z : Int) := by
  rw [(lookup_element_int_decision_partial n e).1, lower_strInt, mem_elementKeys]
  refine and_congr_right fun he => ⟨?_, fun hn => .inr (.inr (hn ▸ rfl))⟩
  have hc := chk_no_digit_end
  simp only [chkNoDigitEnd, List.all_eq_true, Bool.and_eq_true, Bool.not_eq_true'] at hc
  have hd := strInt_last n
  rintro (h | h | h)
  -- a numeral ends in a digit, no symbol or name does
  · rw [h, (hc e he).1] at hd; exact absurd hd nofun
  · rw [h, (hc e he).2] at hd; exact absurd hd nofun
  · cases n with
    | ofNat m => exact congrArg Int.ofNat (strNat_inj h)
    | negSucc m => exact absurd h (strInt_neg_ne m e.z)

example : lookupElement elementIndex (.int 74) = some o_tungsten ∧ o_tungsten ∈ elements :=
  have h : o_tungsten ∈ elements := by decide +kernel
  ⟨(lookup_element_int_decision 74 o_tungsten).mpr ⟨h, rfl⟩, h⟩
example : ¬ (o_tungsten ∈ elements ∧ ((-74 : Int) = (o_tungsten.z : Int))) := by decide +kernel

/-- an int that is nobody's atomic number raises: `lookup_element(n)` is `none` ⇔ no exported element has Z = n -/
theorem lookup_element_int_none_iff (n : Int) :
    lookupElement elementIndex (.int n) = none ↔ ∀ e ∈ elements, n ≠ (e.z : Int) := by
  simp only [Option.eq_none_iff_forall_ne_some, ne_eq, lookup_element_int_decision, not_and]

example : lookupElement elementIndex (.int 0) = none :=
  (lookup_element_int_none_iff 0).mpr (by decide +kernel)

/-- two ints that resolve to the same element are the same int (no aliasing through `str`/`lower`, e.g. `-6` vs `6`) -/
theorem lookup_element_int_injective (n m : Int) (e : El)
    (hn : lookupElement elementIndex (.int n) = some e) (hm : lookupElement elementIndex (.int m) = some e) : n = m := by
  rw [((lookup_element_int_decision n e).1 hn).2, ((lookup_element_int_decision m e).1 hm).2]

example : lookupElement elementIndex (.int 6) = some o_carbon :=
  (lookup_element_int_decision 6 o_carbon).mpr ⟨by decide +kernel, rfl⟩

/-- **lower-casing is a normal form for every identifier lookup** (any index, any string, any `number`): looking up
`s.lower()` is looking up `s` — `lower` is idempotent (`lower_idem`), so the functions' own `.lower()` call absorbs the caller's. -/
theorem lookup_lower_normal_form (eidx : Index El) (iidx : Index Iso) (s : Nat) (number : Option Int) :
    lower (lower s) = lower s ∧
    lookupElement eidx (.str (lower s)) = lookupElement eidx (.str s) ∧
    lookupIsotope eidx iidx (.str (lower s)) number = lookupIsotope eidx iidx (.str s) number := by
  have hi := lower_idem s
  exact ⟨hi, lookupElement_case eidx hi, lookupIsotope_case eidx iidx hi number⟩

example : lookupElement elementIndex (.str (lower (enc "TUNGSTEN"))) = some o_tungsten := by decide +kernel

end Cherab.Props.C19
