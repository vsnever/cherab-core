import Cherab.Lemmas.Admt
import Mathlib.Algebra.Field.Rat
import Mathlib.Algebra.Order.Ring.Rat

/-!
# C20 — grid derivative and ADMT operators discretise the operators they claim to

Objects:

* `opTimes nx ny dx dy op v k` (defined here) — `(generate_derivative_operators(...)[op] @ v)[k]` on the documented
  layout (`n_x × n_y` voxels, 1-D index `ix·n_y + iy`, `iy` growing downwards), computed from the dense row of the model
  (`rowTable`, `opEntry`, `dotN` of `Model/Admt.lean`, which run the *generated* `program` of `Gen/Admt.lean`);
  `none` = the call raises (`IndexError`).
* `sample` (defined here) — a field sampled at the voxel centres `(x0 + ix·dx, y0 − iy·dy)`.
* `calculate_admt`: `coeffs`, `entry` are generated (`Gen/Admt.lean`); `admtCoeffs`, `admtEntry` (`Model/Admt.lean`)
  feed them the matrix–vector products.

The operator theorems are for all `n_x, n_y ≥ 2`, all cells, all origins, all non-zero steps (positive steps for their
extraction from the centres), over an arbitrary ordered field; the coefficient identities hold over any field
(`CoefficientsMatchJet`, `IsotropicIsLaplacian` quantify over those of characteristic 0).
-/
namespace Cherab.Props.C20
set_option linter.unusedSectionVars false
set_option linter.unusedVariables false
set_option linter.unusedTactic false
set_option linter.unreachableTactic false
open Cherab.Admt Cherab.Gen.Admt

variable {α : Type} [Field α] [LinearOrder α] [IsStrictOrderedRing α]

/-- the field `f` sampled at the voxel centres; voxel `k` is `(k / n_y, k % n_y)` -/
def sample (ny : Nat) (x0 y0 dx dy : α) (f : α → α → α) (k : Nat) : α :=
  f (x0 + ((k / ny : Nat) : α) * dx) (y0 - ((k % ny : Nat) : α) * dy)

/-- 2-D index of voxel `k` -/
def cellOf (ny k : Nat) : Int × Int := (((k / ny : Nat) : Int), ((k % ny : Nat) : Int))

/-- `(generate_derivative_operators(...)[op] @ v)[k]`; `none` = `IndexError` -/
def opTimes (nx ny : Nat) (dx dy : α) (op : Op5) (v : Nat → α) (k : Nat) : Option α :=
  (rowTable (fullCells nx ny) (cellOf ny k)).map fun t =>
    dotN (nx * ny) (opEntry (fullCells nx ny) dx dy (cellOf ny k) t op) v

/-- centre of voxel `k` -/
def cx0 (ny : Nat) (x0 dx : α) (k : Nat) : α := x0 + ((k / ny : Nat) : α) * dx
def cy0 (ny : Nat) (y0 dy : α) (k : Nat) : α := y0 - ((k % ny : Nat) : α) * dy

/-- interior voxel: not in the first/last column or row -/
def interiorCell (nx ny k : Nat) : Prop := 0 < k / ny ∧ k / ny + 1 < nx ∧ 0 < k % ny ∧ k % ny + 1 < ny

omit [LinearOrder α] [IsStrictOrderedRing α] in
/-- `opTimes` is the stencil of the cell's boundary class applied to the 2-D neighbourhood -/
theorem opTimes_eq (nx ny k : Nat) (h2x : 2 ≤ nx) (h2y : 2 ≤ ny) (hk : k < nx * ny) :
    ∃ t, stencil (clsOf nx ny (k / ny) (k % ny)) = some t ∧ StencilFacts (clsOf nx ny (k / ny) (k % ny)) t ∧
      ∀ (op : Op5) (dx dy : α) (v : Nat → α),
        opTimes nx ny dx dy op v k = some (applyStencil t op dx dy
          (fun di dj => v ((((k / ny : Nat) : Int) + di).toNat * ny + (((k % ny : Nat) : Int) + dj).toNat))) := by
  obtain ⟨hx, hy⟩ := cell_bounds hk
  obtain ⟨t, ht, hf, hd⟩ := dense_dot_eq_stencil (α := α) nx ny (k / ny) (k % ny) hx hy h2x h2y
  refine ⟨t, ?_, hf, ?_⟩
  · rwa [rowTable, hasOf_full hx hy] at ht
  · intro op dx dy v
    unfold opTimes cellOf
    rw [ht, Option.map_some, hd]

omit [LinearOrder α] [IsStrictOrderedRing α] in
/-- on the positions a row actually uses, the sampled polynomial is the polynomial in the offsets -/
theorem sample_offsets {nx ny k : Nat} (hk : k < nx * ny) {t : Table}
    (hf : StencilFacts (clsOf nx ny (k / ny) (k % ny)) t) (op : Op5) (dx dy x0 y0 : α) (f : α → α → α) :
    applyStencil t op dx dy (fun di dj => sample ny x0 y0 dx dy f
        ((((k / ny : Nat) : Int) + di).toNat * ny + (((k % ny : Nat) : Int) + dj).toNat)) =
      applyStencil t op dx dy (fun di dj => f (cx0 ny x0 dx k + (di : α) * dx) (cy0 ny y0 dy k - (dj : α) * dy)) := by
  obtain ⟨hx, hy⟩ := cell_bounds hk
  apply applyStencil_congr
  intro p hp
  have hhas : (clsOf nx ny (k / ny) (k % ny)).has p = true := by
    by_contra hc
    exact hp (hf.absent op (Op5.mem_all op) p (Pos.mem_all p) (by simpa using hc))
  rw [← hasOf_full hx hy, hasOf, neighbour_full, isSome_ite, decide_eq_true_iff] at hhas
  obtain ⟨h1, h2, h3, h4⟩ := hhas
  obtain ⟨e1, e2⟩ := index_cell (((k / ny : Nat) : Int) + p.off.1).toNat
    (b := (((k % ny : Nat) : Int) + p.off.2).toNat) ((Int.toNat_lt h3).2 h4)
  simp only [sample, cx0, cy0, e1, e2, ← Int.cast_natCast (R := α), Int.toNat_of_nonneg h1, Int.toNat_of_nonneg h3]
  push_cast
  congr 1 <;> ring

/-- the master formula `applyStencil_quadratic` at grid level: any operator applied to a sampled quadratic, in every
cell, with the row table identified as the one of the cell's boundary class -/
theorem opTimes_quadratic_stencil (nx ny k : Nat) (h2x : 2 ≤ nx) (h2y : 2 ≤ ny) (hk : k < nx * ny) :
    ∃ t, stencil (clsOf nx ny (k / ny) (k % ny)) = some t ∧ StencilFacts (clsOf nx ny (k / ny) (k % ny)) t ∧
      ∀ (op : Op5) (dx dy x0 y0 a0 a1 a2 a3 a4 a5 : α),
        opTimes nx ny dx dy op (sample ny x0 y0 dx dy (quad a0 a1 a2 a3 a4 a5)) k =
          some ((quad a0 a1 a2 a3 a4 a5 (cx0 ny x0 dx k) (cy0 ny y0 dy k) * (mom t op 0 0 : α)
            + (a1 + 2 * a3 * cx0 ny x0 dx k + a4 * cy0 ny y0 dy k) * dx * (mom t op 1 0 : α)
            - (a2 + a4 * cx0 ny x0 dx k + 2 * a5 * cy0 ny y0 dy k) * dy * (mom t op 0 1 : α)
            + a3 * dx ^ 2 * (mom t op 2 0 : α) - a4 * (dx * dy) * (mom t op 1 1 : α)
            + a5 * dy ^ 2 * (mom t op 0 2 : α)) / (4 * scaleDen op dx dy)) := by
  obtain ⟨t, hst, hf, h⟩ := opTimes_eq (α := α) nx ny k h2x h2y hk
  refine ⟨t, hst, hf, ?_⟩
  intro op dx dy x0 y0 a0 a1 a2 a3 a4 a5
  rw [h, sample_offsets hk hf,
    applyStencil_quadratic t op (fun p => hf.den op (Op5.mem_all op) p (Pos.mem_all p))]

/-- `opTimes_quadratic_stencil` without the identification of the row table -/
theorem opTimes_quadratic (nx ny k : Nat) (h2x : 2 ≤ nx) (h2y : 2 ≤ ny) (hk : k < nx * ny) :
    ∃ t, StencilFacts (clsOf nx ny (k / ny) (k % ny)) t ∧
      ∀ (op : Op5) (dx dy x0 y0 a0 a1 a2 a3 a4 a5 : α),
        opTimes nx ny dx dy op (sample ny x0 y0 dx dy (quad a0 a1 a2 a3 a4 a5)) k =
          some ((quad a0 a1 a2 a3 a4 a5 (cx0 ny x0 dx k) (cy0 ny y0 dy k) * (mom t op 0 0 : α)
            + (a1 + 2 * a3 * cx0 ny x0 dx k + a4 * cy0 ny y0 dy k) * dx * (mom t op 1 0 : α)
            - (a2 + a4 * cx0 ny x0 dx k + 2 * a5 * cy0 ny y0 dy k) * dy * (mom t op 0 1 : α)
            + a3 * dx ^ 2 * (mom t op 2 0 : α) - a4 * (dx * dy) * (mom t op 1 1 : α)
            + a5 * dy ^ 2 * (mom t op 0 2 : α)) / (4 * scaleDen op dx dy)) := by
  obtain ⟨t, _, hf, h⟩ := opTimes_quadratic_stencil (α := α) nx ny k h2x h2y hk
  exact ⟨t, hf, h⟩

/-- **no cell of a grid with at least two rows and two columns raises**: every neighbour lookup a row relies on
succeeds -/
theorem ops_total (nx ny k : Nat) (h2x : 2 ≤ nx) (h2y : 2 ≤ ny) (hk : k < nx * ny) (op : Op5) (dx dy : α)
    (v : Nat → α) : (opTimes nx ny dx dy op v k).isSome = true := by
  obtain ⟨t, _, _, h⟩ := opTimes_eq (α := α) nx ny k h2x h2y hk
  rw [h]; rfl

/-- a single row or a single column is outside the property (and the code raises `IndexError` there) -/
theorem degenerate_grid_raises : ∀ c ∈ allCls, c.valid = false → stencil c = none := by decide +kernel

/-- **every generated operator maps a constant field to zero**, in every cell -/
theorem ops_annihilate_constants (nx ny k : Nat) (h2x : 2 ≤ nx) (h2y : 2 ≤ ny) (hk : k < nx * ny) (op : Op5)
    (dx dy c : α) : opTimes nx ny dx dy op (fun _ => c) k = some 0 := by
  obtain ⟨t, hf, h⟩ := opTimes_quadratic (α := α) nx ny k h2x h2y hk
  have hs : (fun _ : Nat => c) = sample ny 0 0 dx dy (quad c 0 0 0 0 0) := by
    funext j; simp [sample, quad]
  rw [hs, h, hf.m00 op (Op5.mem_all op)]
  simp [quad]

/-- **What every operator returns on a quadratic field in *every* cell — interior, edge and corner — of a grid of any
size `n_x, n_y ≥ 2`.**  With `σx = +1 / −1 / 0` in the first / last / other columns and `σy = −1 / +1 / 0` in the top /
bottom / other rows (`Cls.sx`, `Cls.sy`):
* `Dx = ∂f/∂x + σx·a₃·dx`, `Dy = ∂f/∂y + σy·a₅·dy` (exact in the interior, first-order one-sided error at the edges,
  hence exact for linear fields everywhere);
* `Dxy = a₄` everywhere;
* `Dxx = 2a₃` where `σx = 0`, but in the first and last column `Dxx = (∂f/∂x + σx·a₃·dx)/dx` — the one-sided *first*
  difference divided by `dx` ("second version" of the boundary formulae): it annihilates constants but is **not** a
  discretisation of `∂²/∂x²` there; likewise `Dyy` in the top and bottom rows.  (The property claims second-derivative
  exactness for interior cells only; this theorem makes precise what happens elsewhere.) -/
theorem ops_quadratic_every_cell (nx ny k : Nat) (h2x : 2 ≤ nx) (h2y : 2 ≤ ny) (hk : k < nx * ny)
    (dx dy x0 y0 a0 a1 a2 a3 a4 a5 : α) (hdx : dx ≠ 0) (hdy : dy ≠ 0) :
    let c := clsOf nx ny (k / ny) (k % ny)
    let v := sample ny x0 y0 dx dy (quad a0 a1 a2 a3 a4 a5)
    let fx := a1 + 2 * a3 * cx0 ny x0 dx k + a4 * cy0 ny y0 dy k
    let fy := a2 + a4 * cx0 ny x0 dx k + 2 * a5 * cy0 ny y0 dy k
    opTimes nx ny dx dy .Dx v k = some (fx + (c.sx : α) * a3 * dx) ∧
    opTimes nx ny dx dy .Dy v k = some (fy + (c.sy : α) * a5 * dy) ∧
    opTimes nx ny dx dy .Dxy v k = some a4 ∧
    opTimes nx ny dx dy .Dxx v k = some (if c.sx = 0 then 2 * a3 else (fx + (c.sx : α) * a3 * dx) / dx) ∧
    opTimes nx ny dx dy .Dyy v k = some (if c.sy = 0 then 2 * a5 else (fy + (c.sy : α) * a5 * dy) / dy) := by
  intro c v fx fy
  obtain ⟨t, ht, hf, h⟩ := opTimes_quadratic_stencil (α := α) nx ny k h2x h2y hk
  have hb := boundary_facts (clsOf_valid nx ny _ _ h2x h2y) ht
  -- the master formula for a row whose six moments are known
  have row : ∀ (op : Op5) {m00 m10 m01 m20 m11 m02 : Int}, moms t op = [m00, m10, m01, m20, m11, m02] →
      opTimes nx ny dx dy op v k = some ((quad a0 a1 a2 a3 a4 a5 (cx0 ny x0 dx k) (cy0 ny y0 dy k) * m00
        + fx * dx * m10 - fy * dy * m01 + a3 * dx ^ 2 * m20 - a4 * (dx * dy) * m11 + a5 * dy ^ 2 * m02)
        / (4 * scaleDen op dx dy)) := by
    intro op m00 m10 m01 m20 m11 m02 hm
    simp only [moms, List.cons.injEq, and_true] at hm
    obtain ⟨rfl, rfl, rfl, rfl, rfl, rfl⟩ := hm
    exact h op dx dy x0 y0 a0 a1 a2 a3 a4 a5
  have fin : ∀ (s : α) {x y : α}, s ≠ 0 → x = 4 * s * y → some (x / (4 * s)) = some y := fun s _ _ hs hx => by
    rw [hx, mul_div_cancel_left₀ _ (mul_ne_zero four_ne_zero hs)]
  -- at an edge the second-difference row is the first-difference row, over the step squared
  have fin' : ∀ (s : α) {x y : α}, s ≠ 0 → x = 4 * s * y → some (x / (4 * (s * s))) = some (y / s) :=
    fun s _ _ hs hx => by
      rw [hx, ← mul_assoc 4, mul_div_mul_left _ _ (mul_ne_zero four_ne_zero hs)]
  have hxx : dx * dx ≠ 0 := mul_ne_zero hdx hdx
  have hyy : dy * dy ≠ 0 := mul_ne_zero hdy hdy
  refine ⟨?_, ?_, ?_, ?_, ?_⟩
  · rw [row _ hb.dx]
    exact fin dx hdx (by push_cast; ring)
  · rw [row _ hb.dy]
    exact fin dy hdy (by push_cast; ring)
  · rw [row _ hf.dxy]
    exact fin (dx * dy) (mul_ne_zero hdx hdy) (by push_cast; ring)
  · have hD := hb.dxx
    split_ifs at hD ⊢ with hs
    · rw [row _ hD]
      exact fin (dx * dx) hxx (by push_cast; ring)
    · rw [row _ hD]
      exact fin' dx hdx (by push_cast; ring)
  · have hD := hb.dyy
    split_ifs at hD ⊢ with hs
    · rw [row _ hD]
      exact fin (dy * dy) hyy (by push_cast; ring)
    · rw [row _ hD]
      exact fin' dy hdy (by push_cast; ring)

/-- **the first-derivative operators return the exact gradient of any linear field in every cell** -/
theorem dx_dy_exact_linear (nx ny k : Nat) (h2x : 2 ≤ nx) (h2y : 2 ≤ ny) (hk : k < nx * ny)
    (dx dy x0 y0 a0 a1 a2 : α) (hdx : dx ≠ 0) (hdy : dy ≠ 0) :
    opTimes nx ny dx dy .Dx (sample ny x0 y0 dx dy (fun X Y => a0 + a1 * X + a2 * Y)) k = some a1 ∧
    opTimes nx ny dx dy .Dy (sample ny x0 y0 dx dy (fun X Y => a0 + a1 * X + a2 * Y)) k = some a2 := by
  have hs : (fun X Y : α => a0 + a1 * X + a2 * Y) = quad a0 a1 a2 0 0 0 := by
    funext X Y; simp [quad]
  obtain ⟨hx, hy, _⟩ := ops_quadratic_every_cell nx ny k h2x h2y hk dx dy x0 y0 a0 a1 a2 0 0 0 hdx hdy
  rw [hs]
  exact ⟨by simpa using hx, by simpa using hy⟩

/-- **the mixed operator returns the exact mixed derivative of any bilinear field in every cell** — in fact of any
quadratic field: all its moments up to order two other than `m₁₁` vanish in all nine boundary classes -/
theorem dxy_exact_bilinear (nx ny k : Nat) (h2x : 2 ≤ nx) (h2y : 2 ≤ ny) (hk : k < nx * ny)
    (dx dy x0 y0 a0 a1 a2 a3 a4 a5 : α) (hdx : dx ≠ 0) (hdy : dy ≠ 0) :
    opTimes nx ny dx dy .Dxy (sample ny x0 y0 dx dy (quad a0 a1 a2 a3 a4 a5)) k = some a4 :=
  (ops_quadratic_every_cell nx ny k h2x h2y hk dx dy x0 y0 a0 a1 a2 a3 a4 a5 hdx hdy).2.2.1

/-- **all five operators are exact for quadratic fields in interior cells**
(`Dxx → 2a₃`, `Dyy → 2a₅`, `Dxy → a₄`, `Dx`, `Dy` → the gradient at the cell centre) -/
theorem ops_exact_quadratic_interior (nx ny k : Nat) (h2x : 2 ≤ nx) (h2y : 2 ≤ ny) (hk : k < nx * ny)
    (hint : interiorCell nx ny k) (dx dy x0 y0 a0 a1 a2 a3 a4 a5 : α) (hdx : dx ≠ 0) (hdy : dy ≠ 0) :
    let v := sample ny x0 y0 dx dy (quad a0 a1 a2 a3 a4 a5)
    opTimes nx ny dx dy .Dxx v k = some (2 * a3) ∧ opTimes nx ny dx dy .Dyy v k = some (2 * a5) ∧
    opTimes nx ny dx dy .Dxy v k = some a4 ∧
    opTimes nx ny dx dy .Dx v k = some (a1 + 2 * a3 * cx0 ny x0 dx k + a4 * cy0 ny y0 dy k) ∧
    opTimes nx ny dx dy .Dy v k = some (a2 + a4 * cx0 ny x0 dx k + 2 * a5 * cy0 ny y0 dy k) := by
  intro v
  obtain ⟨i1, i2, i3, i4⟩ := hint
  have hsx : (clsOf nx ny (k / ny) (k % ny)).sx = 0 := by
    simp only [Cls.sx, clsOf, beq_iff_eq]; rw [if_neg (by omega), if_neg (by omega)]
  have hsy : (clsOf nx ny (k / ny) (k % ny)).sy = 0 := by
    simp only [Cls.sy, clsOf, beq_iff_eq]; rw [if_neg (by omega), if_neg (by omega)]
  obtain ⟨hx, hy, hxy, hxx, hyy⟩ := ops_quadratic_every_cell nx ny k h2x h2y hk dx dy x0 y0 a0 a1 a2 a3 a4 a5 hdx hdy
  simp only [hsx, hsy, if_true, Int.cast_zero, zero_mul, add_zero] at hx hy hxx hyy
  exact ⟨hxx, hyy, hxy, hx, hy⟩

/-- **independent of the origin**: the steps the code extracts from the voxel centres
(`np.min(abs(np.diff(centres)[≠ 0]))`, column-major order) are the grid's `dx, dy > 0` wherever the grid sits; the
stencils (`rowTable`) take no coordinates at all, so the operators are functions of `(n_x, n_y, dx, dy)` only and
the exactness theorems above hold for every origin `(x0, y0)` and every `dx, dy ≠ 0`. -/
theorem steps_extracted_origin_independent (nx ny : Nat) (h2x : 2 ≤ nx) (h2y : 2 ≤ ny) (x0 y0 dx dy : α)
    (hdx : 0 < dx) (hdy : 0 < dy) :
    extractSteps ((List.range (nx * ny)).map fun k =>
      centre [(cx0 ny x0 dx k + dx / 2, cy0 ny y0 dy k + dy / 2), (cx0 ny x0 dx k + dx / 2, cy0 ny y0 dy k - dy / 2),
              (cx0 ny x0 dx k - dx / 2, cy0 ny y0 dy k - dy / 2), (cx0 ny x0 dx k - dx / 2, cy0 ny y0 dy k + dy / 2)])
      = some (dx, dy) := by
  simp only [centre_rect]
  exact extractSteps_full nx ny h2x h2y x0 y0 dx dy hdx hdy

/-- **The coefficient identity.**  For every field of characteristic 0, every value of the derivatives of ψ with
`|∇ψ|² ≠ 0`, every `R ≠ 0`, anisotropy `≠ 0`, and every test function (through its derivatives `fx … fyy`), the combination
`cx·fx + cy·fy + cxx·fxx + 2cxy·fxy + cyy·fyy` formed with the code's coefficients is `div(D ∇f)` as defined by the
jet expansion `specDiv` with `D∥ = 1`, `D⊥ = 1/anisotropy` (their derivative slots are what the code feeds in:
`Dx @ Dpar`, …). -/
def CoefficientsMatchJet : Prop :=
  ∀ (β : Type) [Field β] [CharZero β] (an R px py pxx pxy pyy dparx dpary dperpx dperpy fx fy fxx fxy fyy : β),
    an ≠ 0 → R ≠ 0 → px * px + py * py ≠ 0 →
    (coeffs an R px py pxx pxy pyy dparx dpary dperpx dperpy).cx * fx
      + (coeffs an R px py pxx pxy pyy dparx dpary dperpx dperpy).cy * fy
      + (coeffs an R px py pxx pxy pyy dparx dpary dperpx dperpy).cxx * fxx
      + 2 * (coeffs an R px py pxx pxy pyy dparx dpary dperpx dperpy).cxy * fxy
      + (coeffs an R px py pxx pxy pyy dparx dpary dperpx dperpy).cyy * fyy =
      specDiv px py pxx pxy pyy ⟨1 / an, dperpx, dperpy⟩ ⟨1, dparx, dpary⟩ R fx fy fxx fxy fyy

/-- **Isotropic case.**  Anisotropy 1 (and the derivatives of the constant `D` fields zero): the coefficients are
those of `∂²/∂x² + ∂²/∂y² + (1/R) ∂/∂x`, whatever the flux map. -/
def IsotropicIsLaplacian : Prop :=
  ∀ (β : Type) [Field β] [CharZero β] (R px py pxx pxy pyy : β), R ≠ 0 → px * px + py * py ≠ 0 →
    (coeffs 1 R px py pxx pxy pyy 0 0 0 0).cx = 1 / R ∧ (coeffs 1 R px py pxx pxy pyy 0 0 0 0).cy = 0 ∧
    (coeffs 1 R px py pxx pxy pyy 0 0 0 0).cxx = 1 ∧ (coeffs 1 R px py pxx pxy pyy 0 0 0 0).cxy = 0 ∧
    (coeffs 1 R px py pxx pxy pyy 0 0 0 0).cyy = 1

/-! The code's coefficients against `specCoeffs`, one at a time.  `cy, cxx, cxy, cyy` do not depend on
`dnorm_term_cx`, the term whose choice of second derivative of ψ the translator reports as `dnormCxSlot`, so they are
proved outside the case distinction on it; `cx` is inside `admt_coefficients_jet_verdict`. -/
section
variable {β : Type} [Field β] {an R px py pxx pxy pyy dparx dpary dperpx dperpy : β}

theorem coeffs_cy (hN : px * px + py * py ≠ 0) :
    (coeffs an R px py pxx pxy pyy dparx dpary dperpx dperpy).cy =
      (specCoeffs px py pxx pxy pyy ⟨1 / an, dperpx, dperpy⟩ ⟨1, dparx, dpary⟩ R).cy := by
  rw [specCoeffs_eq hN]
  refine Eq.trans ?_ (Jet.quotient_rule _ _ _ R hN).symm
  simp only [Jet.mul_def, Jet.add_def, Jet.sub_def, coeffs, Cherab.Admt.sq]
  push_cast
  ring

theorem coeffs_second_order (hN : px * px + py * py ≠ 0) :
    (coeffs an R px py pxx pxy pyy dparx dpary dperpx dperpy).cxx =
        (specCoeffs px py pxx pxy pyy ⟨1 / an, dperpx, dperpy⟩ ⟨1, dparx, dpary⟩ R).cxx ∧
      (coeffs an R px py pxx pxy pyy dparx dpary dperpx dperpy).cxy =
        (specCoeffs px py pxx pxy pyy ⟨1 / an, dperpx, dperpy⟩ ⟨1, dparx, dpary⟩ R).cxy ∧
      (coeffs an R px py pxx pxy pyy dparx dpary dperpx dperpy).cyy =
        (specCoeffs px py pxx pxy pyy ⟨1 / an, dperpx, dperpy⟩ ⟨1, dparx, dpary⟩ R).cyy := by
  rw [specCoeffs_eq hN]
  simp only [Jet.mul_def, Jet.add_def, Jet.sub_def, Jet.div_def, coeffs, Cherab.Admt.sq]
  push_cast
  exact ⟨by ring, by ring, by ring⟩

end

/-- the part of the coefficient identity that holds whichever slot the source reads: everything
except the coefficient of `∂f/∂x` (`cy, cxx, cxy, cyy` agree with the jet expansion) -/
theorem admt_coefficients_match_jet_partial {β : Type} [Field β]
    (an R px py pxx pxy pyy dparx dpary dperpx dperpy fy fxx fxy fyy : β)
    (ha : an ≠ 0) (hR : R ≠ 0) (hN : px * px + py * py ≠ 0) :
    (coeffs an R px py pxx pxy pyy dparx dpary dperpx dperpy).cy * fy
      + (coeffs an R px py pxx pxy pyy dparx dpary dperpx dperpy).cxx * fxx
      + 2 * (coeffs an R px py pxx pxy pyy dparx dpary dperpx dperpy).cxy * fxy
      + (coeffs an R px py pxx pxy pyy dparx dpary dperpx dperpy).cyy * fyy =
      specDiv px py pxx pxy pyy ⟨1 / an, dperpx, dperpy⟩ ⟨1, dparx, dpary⟩ R 0 fy fxx fxy fyy := by
  simp only [specDiv_eq hR, coeffs_cy hN, coeffs_second_order hN, mul_zero, zero_add]

/-- **Verdict on the coefficient identity for the current source** (`dnormCxSlot` is read from
`admt_utils.py` by the translator on every run).
* slot `dpsidxdy` (∂ₓ|∇ψ|² = 2(ψₓψₓₓ + ψ_yψₓ_y), the corrected code): the identity holds;
* otherwise (`dpsidyy`, the source before the correction): it is **false** — refuted on the rational witness
  `anisotropy = R = 1, ∇ψ = (1, 1), ψₓₓ = ψₓ_y = 0, ψ_yy = 1, f = x`: the code gives `cx = 0`, the operator `1/R = 1`. -/
theorem admt_coefficients_jet_verdict :
    match dnormCxSlot with
    | .dpsidxdy => CoefficientsMatchJet
    | _ => ¬ CoefficientsMatchJet := by
  first
  | (show CoefficientsMatchJet
     intro β _ _ an R px py pxx pxy pyy dparx dpary dperpx dperpy fx fy fxx fxy fyy ha hR hN
     -- the one coefficient that reads the slot; same argument as `coeffs_cy`
     have hcx : (coeffs an R px py pxx pxy pyy dparx dpary dperpx dperpy).cx =
         (specCoeffs px py pxx pxy pyy ⟨1 / an, dperpx, dperpy⟩ ⟨1, dparx, dpary⟩ R).cx := by
       rw [specCoeffs_eq hN]
       refine Eq.trans ?_ (Jet.quotient_rule _ _ _ R hN).symm
       simp only [Jet.mul_def, Jet.add_def, Jet.sub_def, coeffs, Cherab.Admt.sq]
       push_cast
       ring
     simp only [specDiv_eq hR, hcx, coeffs_cy hN, coeffs_second_order hN])
  | (show ¬ CoefficientsMatchJet
     intro h
     have := h ℚ 1 1 1 1 0 0 1 0 0 0 0 1 0 0 0 0 (by norm_num) (by norm_num) (by norm_num)
     norm_num [coeffs, specDiv, Cherab.Admt.sq, Jet.mul_def, Jet.add_def, Jet.sub_def, Jet.div_def, Jet.const] at this)

/-- the identity implies the isotropic reduction (so the isotropic clause stands or falls with it): with
`D⊥ = D∥ = 1` the specification is `fx / R + fxx + fyy` (`specCoeffs_isotropic`), and unit test functions read the
coefficients off -/
theorem admt_isotropic_of_match (h : CoefficientsMatchJet) : IsotropicIsLaplacian := by
  intro β _ _ R px py pxx pxy pyy hR hN
  have e := fun fx fy fxx fxy fyy => h β 1 R px py pxx pxy pyy 0 0 0 0 fx fy fxx fxy fyy one_ne_zero hR hN
  simp only [div_one, specDiv_eq hR, specCoeffs_isotropic] at e
  refine ⟨by simpa using e 1 0 0 0 0, by simpa using e 0 1 0 0 0, by simpa using e 0 0 1 0 0,
    by simpa using e 0 0 0 1 0, by simpa using e 0 0 0 0 1⟩

/-- **Verdict on the isotropic clause for the current source**: with the corrected slot, anisotropy 1 gives exactly
the Laplacian coefficients for every flux map; with the slot `dpsidyy` it does not (same witness: `cx = 0 ≠ 1/R`). -/
theorem admt_isotropic_laplacian_verdict :
    match dnormCxSlot with
    | .dpsidxdy => IsotropicIsLaplacian
    | _ => ¬ IsotropicIsLaplacian := by
  first
  | exact admt_isotropic_of_match admt_coefficients_jet_verdict
  | (show ¬ IsotropicIsLaplacian
     intro h
     have := (h ℚ 1 1 1 0 0 1 (by norm_num) (by norm_num)).1
     norm_num [coeffs, Cherab.Admt.sq] at this)

/-! Scaling ψ by `c` multiplies the forms of degree two in its derivatives (`|∇ψ|²` and the numerators) by `k = c²`, and
the numerator of the `dnorm_term` by `k²`; a fraction, and the quotient-rule expression of `cx` and `cy`, do not notice. -/

theorem scaled_fraction {β : Type} [Field β] {k n m t t' : β} (hk : k ≠ 0) (hm : m = k * n) (ht : t' = k * t) :
    t' / m = t / n := by
  rw [hm, ht, mul_div_mul_left t n hk]

theorem scaled_quotient_rule {β : Type} [Field β] {k n m A A' B B' t t' : β} (R : β) (hk : k ≠ 0) (hn : n ≠ 0)
    (hm : m = k * n) (hA : A' = k * A) (hB : B' = k * k * B) (ht : t' = k * t) :
    (A' + -2 / m * B' + t' / m / R * m) / m = (A + -2 / n * B + t / n / R * n) / n := by
  subst hm hA hB ht
  field_simp

/-- **scale invariance**: the coefficients depend on the flux map only through the *direction* of ∇ψ — ψ and `c·ψ`
(`c ≠ 0`, either sign, any magnitude) describe the same flux surfaces and give the same `cx, cy, cxx, cxy, cyy`.
(All derivatives of `c·ψ` are `c` times those of ψ because the operators are linear.) -/
theorem admt_coefficients_scale_invariant {β : Type} [Field β]
    (c an R px py pxx pxy pyy dparx dpary dperpx dperpy : β) (hc : c ≠ 0) (ha : an ≠ 0) (hR : R ≠ 0)
    (hN : px * px + py * py ≠ 0) :
    coeffs an R (c * px) (c * py) (c * pxx) (c * pxy) (c * pyy) dparx dpary dperpx dperpy =
      coeffs an R px py pxx pxy pyy dparx dpary dperpx dperpy := by
  simp only [coeffs, Cherab.Admt.sq, Coeffs.mk.injEq]
  push_cast
  have hcc : c * c ≠ 0 := mul_ne_zero hc hc
  have hm : c * px * (c * px) + c * py * (c * py) = c * c * (px * px + py * py) := by ring
  exact ⟨scaled_quotient_rule R hcc hN hm (by ring) (by ring) (by ring),
    scaled_quotient_rule R hcc hN hm (by ring) (by ring) (by ring),
    scaled_fraction hcc hm (by ring), scaled_fraction hcc hm (by ring), scaled_fraction hcc hm (by ring)⟩

/-- **finite**: every divisor met while evaluating the coefficients is one of `anisotropy`, `|∇ψ|²`, `R`;
none vanishes under the property's hypotheses (the list is generated from the `/` nodes of the source) -/
theorem admt_denominators_nonzero {β : Type} [Field β]
    (an R px py pxx pxy pyy dparx dpary dperpx dperpy : β) (ha : an ≠ 0) (hR : R ≠ 0)
    (hN : px * px + py * py ≠ 0) :
    ∀ d ∈ denominators an R px py pxx pxy pyy dparx dpary dperpx dperpy, d ≠ 0 := by
  simp only [denominators, Cherab.Admt.sq, List.forall_mem_cons, List.not_mem_nil, false_imp_iff, implies_true,
    and_true]
  repeat' constructor
  all_goals assumption

/-- the dense operators returned by `generate_derivative_operators` for the full grid (steps `gdx, gdy`) -/
def genOp (nx ny : Nat) (gdx gdy : α) (op : Op5) (i j : Nat) : α :=
  match rowTable (fullCells nx ny) (cellOf ny i) with
  | some t => opEntry (fullCells nx ny) gdx gdy (cellOf ny i) t op j
  | none => 0

omit [LinearOrder α] [IsStrictOrderedRing α] in
theorem opTimes_genOp {nx ny : Nat} {gdx gdy : α} {op : Op5} {v : Nat → α} {k : Nat} {x : α}
    (h : opTimes nx ny gdx gdy op v k = some x) : dotN (nx * ny) (genOp nx ny gdx gdy op k) v = x := by
  unfold opTimes at h
  unfold genOp
  cases ht : rowTable (fullCells nx ny) (cellOf ny k) with
  | none => rw [ht] at h; simp at h
  | some t => rw [ht] at h; simpa using h

theorem genOp_dot_const {nx ny i : Nat} (h2x : 2 ≤ nx) (h2y : 2 ≤ ny) (hi : i < nx * ny) (gdx gdy c : α) (op : Op5) :
    dotN (nx * ny) (genOp nx ny gdx gdy op i) (fun _ => c) = 0 :=
  opTimes_genOp (ops_annihilate_constants nx ny i h2x h2y hi op gdx gdy c)

/-- discrete `|∇ψ|²` in cell `i`, as `calculate_admt` forms it -/
def normalisationAt (nx ny : Nat) (gdx gdy : α) (psi : Nat → α) (i : Nat) : α :=
  dotN (nx * ny) (genOp nx ny gdx gdy .Dx i) psi * dotN (nx * ny) (genOp nx ny gdx gdy .Dx i) psi
    + dotN (nx * ny) (genOp nx ny gdx gdy .Dy i) psi * dotN (nx * ny) (genOp nx ny gdx gdy .Dy i) psi

/-- **the ADMT operator annihilates constants**: every row sums to zero — for every flux map, anisotropy, radius,
with or without the slip in `dnorm_term_cx` (it only needs the row to be a combination of the five operator rows) -/
theorem admt_annihilates_constants (nx ny i : Nat) (h2x : 2 ≤ nx) (h2y : 2 ≤ ny) (hi : i < nx * ny)
    (sqrt : α → α) (radii psi : Nat → α) (gdx gdy dx dy an c : α) :
    dotN (nx * ny) (admtEntry sqrt (nx * ny) radii (genOp nx ny gdx gdy) psi dx dy an i) (fun _ => c) = 0 := by
  unfold admtEntry admtEntryOf
  rw [dotN_entry]
  simp only [genOp_dot_const h2x h2y hi, entry]
  push_cast
  ring

/-- the coefficients `calculate_admt` uses in row `i` of a full grid: the derivatives of the constant `D` fields
vanish because the operators annihilate constants -/
theorem admtCoeffs_full {nx ny i : Nat} (h2x : 2 ≤ nx) (h2y : 2 ≤ ny) (hi : i < nx * ny)
    (radii psi : Nat → α) (gdx gdy an : α) :
    admtCoeffs (nx * ny) radii (genOp nx ny gdx gdy) psi an i =
      coeffs an (radii i)
        (dotN (nx * ny) (genOp nx ny gdx gdy .Dx i) psi) (dotN (nx * ny) (genOp nx ny gdx gdy .Dy i) psi)
        (dotN (nx * ny) (genOp nx ny gdx gdy .Dxx i) psi) (dotN (nx * ny) (genOp nx ny gdx gdy .Dxy i) psi)
        (dotN (nx * ny) (genOp nx ny gdx gdy .Dyy i) psi) 0 0 0 0 := by
  unfold admtCoeffs
  simp only [genOp_dot_const h2x h2y hi]

/-- **anisotropy one ⇒ Laplacian, entry by entry** (given the isotropic coefficient clause, see
`admt_isotropic_laplacian_verdict`): `calculate_admt(…, anisotropy = 1) = (Dxx + Dyy + diag(1/R) Dx)·√(dx·dy)` for
every flux map whose discrete gradient does not vanish -/
theorem admt_isotropic_is_laplacian (hiso : IsotropicIsLaplacian) [CharZero α]
    (nx ny i j : Nat) (h2x : 2 ≤ nx) (h2y : 2 ≤ ny) (hi : i < nx * ny)
    (sqrt : α → α) (radii psi : Nat → α) (gdx gdy dx dy : α)
    (hR : radii i ≠ 0) (hN : normalisationAt nx ny gdx gdy psi i ≠ 0) :
    admtEntry sqrt (nx * ny) radii (genOp nx ny gdx gdy) psi dx dy 1 i j =
      (genOp nx ny gdx gdy .Dxx i j + genOp nx ny gdx gdy .Dyy i j + genOp nx ny gdx gdy .Dx i j / radii i)
        * sqrt (dx * dy) := by
  unfold admtEntry admtEntryOf
  rw [admtCoeffs_full h2x h2y hi]
  obtain ⟨h1, h2, h3, h4, h5⟩ := hiso α (radii i) _ _ (dotN (nx * ny) (genOp nx ny gdx gdy .Dxx i) psi)
    (dotN (nx * ny) (genOp nx ny gdx gdy .Dxy i) psi) (dotN (nx * ny) (genOp nx ny gdx gdy .Dyy i) psi) hR hN
  rw [h1, h2, h3, h4, h5]
  simp only [entry, finalScale]
  push_cast
  ring

/-- **consistency** (given the coefficient identity, see `admt_coefficients_jet_verdict`): in an interior cell the
ADMT row applied to the samples of any quadratic `f` is `√(dx·dy) · div(D ∇f)` evaluated — through the jet expansion
— with the discrete derivatives of ψ at that cell and the *exact* derivatives of `f` at the cell centre.  Together
with the exactness of the five stencils on quadratics this is second-order consistency of the discretisation; the
limit statement itself is not formalised. -/
theorem admt_consistent_interior (hjet : CoefficientsMatchJet) [CharZero α]
    (nx ny i : Nat) (h2x : 2 ≤ nx) (h2y : 2 ≤ ny) (hi : i < nx * ny) (hint : interiorCell nx ny i)
    (sqrt : α → α) (radii psi : Nat → α) (gdx gdy dx dy an x0 y0 a0 a1 a2 a3 a4 a5 : α)
    (hgx : gdx ≠ 0) (hgy : gdy ≠ 0) (ha : an ≠ 0)
    (hR : radii i ≠ 0) (hN : normalisationAt nx ny gdx gdy psi i ≠ 0) :
    dotN (nx * ny) (admtEntry sqrt (nx * ny) radii (genOp nx ny gdx gdy) psi dx dy an i)
        (sample ny x0 y0 gdx gdy (quad a0 a1 a2 a3 a4 a5)) =
      specDiv (dotN (nx * ny) (genOp nx ny gdx gdy .Dx i) psi) (dotN (nx * ny) (genOp nx ny gdx gdy .Dy i) psi)
          (dotN (nx * ny) (genOp nx ny gdx gdy .Dxx i) psi) (dotN (nx * ny) (genOp nx ny gdx gdy .Dxy i) psi)
          (dotN (nx * ny) (genOp nx ny gdx gdy .Dyy i) psi) ⟨1 / an, 0, 0⟩ ⟨1, 0, 0⟩ (radii i)
          (a1 + 2 * a3 * cx0 ny x0 gdx i + a4 * cy0 ny y0 gdy i)
          (a2 + a4 * cx0 ny x0 gdx i + 2 * a5 * cy0 ny y0 gdy i) (2 * a3) a4 (2 * a5)
        * sqrt (dx * dy) := by
  obtain ⟨e1, e2, e3, e4, e5⟩ := ops_exact_quadratic_interior nx ny i h2x h2y hi hint gdx gdy x0 y0
    a0 a1 a2 a3 a4 a5 hgx hgy
  unfold admtEntry admtEntryOf
  rw [dotN_entry, admtCoeffs_full h2x h2y hi,
    opTimes_genOp e1, opTimes_genOp e2, opTimes_genOp e3,
    opTimes_genOp e4, opTimes_genOp e5]
  rw [← hjet α an (radii i) _ _ _ _ _ 0 0 0 0 _ _ _ _ _ ha hR hN]
  simp only [entry, finalScale]
  push_cast
  ring

/-- non-vacuity: corner voxel 0 of a 2 × 3 grid has `σx = 1, σy = −1`; its `Dxx` on `f = x²` is the first difference
`(0 + dx)/dx = 1`, not `2` -/
example : (clsOf 2 3 0 0).sx = 1 ∧ (clsOf 2 3 0 0).sy = -1 := by decide
example : opTimes 2 3 (1 : ℚ) 1 .Dxx (sample 3 0 0 1 1 (quad 0 0 0 1 0 0)) 0 = some 1 := by
  have h := (ops_quadratic_every_cell 2 3 0 (by decide) (by decide) (by decide) (1 : ℚ) 1 0 0 0 0 0 1 0 0
    one_ne_zero one_ne_zero).2.2.2.1
  have hs : (clsOf 2 3 (0 / 3) (0 % 3)).sx = 1 := by decide
  simp only [hs, cx0, cy0] at h
  rw [h]; norm_num

/-! ### the isotropic and the consistency clause, unconditionally, for the current source

`admt_isotropic_laplacian_verdict` / `admt_coefficients_jet_verdict` have the statement
`match dnormCxSlot with | .dpsidxdy => clause | _ => ¬ clause`; on a tree where `dnorm_term_cx` reads `dpsidxdy` they *are*
the clauses (definitional unfolding).  The theorems below stop compiling if that ever regresses. -/

/-- **anisotropy 1 ⇒ Laplacian as an identity of the generated coefficient formulas** (whatever the flux map) -/
theorem admt_isotropic_coefficients : IsotropicIsLaplacian := admt_isotropic_laplacian_verdict

/-- the generated coefficients are the jet expansion of `div(D ∇f)` -/
theorem admt_coefficients_match_jet : CoefficientsMatchJet := admt_coefficients_jet_verdict

/-- **`calculate_admt(…, anisotropy = 1) = (Dxx + Dyy + diag(1/R)·Dx)·√(dx·dy)`, entry by entry**, for every grid
`n_x, n_y ≥ 2`, every cell, every flux map whose discrete gradient does not vanish there, every `R ≠ 0` -/
theorem admt_isotropic_is_laplacian_full [CharZero α]
    (nx ny i j : Nat) (h2x : 2 ≤ nx) (h2y : 2 ≤ ny) (hi : i < nx * ny)
    (sqrt : α → α) (radii psi : Nat → α) (gdx gdy dx dy : α)
    (hR : radii i ≠ 0) (hN : normalisationAt nx ny gdx gdy psi i ≠ 0) :
    admtEntry sqrt (nx * ny) radii (genOp nx ny gdx gdy) psi dx dy 1 i j =
      (genOp nx ny gdx gdy .Dxx i j + genOp nx ny gdx gdy .Dyy i j + genOp nx ny gdx gdy .Dx i j / radii i)
        * sqrt (dx * dy) :=
  admt_isotropic_is_laplacian admt_isotropic_coefficients nx ny i j h2x h2y hi sqrt radii psi gdx gdy dx dy hR hN

/-- **consistency in interior cells** (see `admt_consistent_interior`), without hypothesis on the source -/
theorem admt_consistent_interior_full [CharZero α]
    (nx ny i : Nat) (h2x : 2 ≤ nx) (h2y : 2 ≤ ny) (hi : i < nx * ny) (hint : interiorCell nx ny i)
    (sqrt : α → α) (radii psi : Nat → α) (gdx gdy dx dy an x0 y0 a0 a1 a2 a3 a4 a5 : α)
    (hgx : gdx ≠ 0) (hgy : gdy ≠ 0) (ha : an ≠ 0)
    (hR : radii i ≠ 0) (hN : normalisationAt nx ny gdx gdy psi i ≠ 0) :
    dotN (nx * ny) (admtEntry sqrt (nx * ny) radii (genOp nx ny gdx gdy) psi dx dy an i)
        (sample ny x0 y0 gdx gdy (quad a0 a1 a2 a3 a4 a5)) =
      specDiv (dotN (nx * ny) (genOp nx ny gdx gdy .Dx i) psi) (dotN (nx * ny) (genOp nx ny gdx gdy .Dy i) psi)
          (dotN (nx * ny) (genOp nx ny gdx gdy .Dxx i) psi) (dotN (nx * ny) (genOp nx ny gdx gdy .Dxy i) psi)
          (dotN (nx * ny) (genOp nx ny gdx gdy .Dyy i) psi) ⟨1 / an, 0, 0⟩ ⟨1, 0, 0⟩ (radii i)
          (a1 + 2 * a3 * cx0 ny x0 gdx i + a4 * cy0 ny y0 gdy i)
          (a2 + a4 * cx0 ny x0 gdx i + 2 * a5 * cy0 ny y0 gdy i) (2 * a3) a4 (2 * a5)
        * sqrt (dx * dy) :=
  admt_consistent_interior admt_coefficients_match_jet nx ny i h2x h2y hi hint sqrt radii psi gdx gdy dx dy an
    x0 y0 a0 a1 a2 a3 a4 a5 hgx hgy ha hR hN

/-- non-vacuity: the hypotheses of `admt_isotropic_is_laplacian_full` hold in voxel 4 of a 3 × 3 grid for `ψ = x + y`
(discrete `|∇ψ|² = 2`) and `R = 1 + x` -/
example : admtEntry (fun x : ℚ => x) (3 * 3) (fun k => 1 + (k / 3 : Nat)) (genOp 3 3 1 1)
      (sample 3 0 0 1 1 (fun X Y => 0 + 1 * X + 1 * Y)) 1 1 1 4 4 =
    (genOp 3 3 (1 : ℚ) 1 .Dxx 4 4 + genOp 3 3 1 1 .Dyy 4 4 + genOp 3 3 1 1 .Dx 4 4 / (1 + (4 / 3 : Nat))) * (1 * 1) := by
  refine admt_isotropic_is_laplacian_full 3 3 4 4 (by decide) (by decide) (by decide) _ _ _ 1 1 1 1 (by norm_num) ?_
  obtain ⟨e1, e2⟩ := dx_dy_exact_linear 3 3 4 (by decide) (by decide) (by decide) (1 : ℚ) 1 0 0 0 1 1 one_ne_zero one_ne_zero
  unfold normalisationAt
  rw [opTimes_genOp e1, opTimes_genOp e2]
  norm_num

/-- **`calculate_admt(c·ψ) = calculate_admt(ψ)`, entry by entry**, for *any* five dense operators `M` of any size `n`
(not only generated ones), any `c ≠ 0` of either sign: the operator depends on the flux map only through the direction
of its discrete gradient.  (The S oracle `depends-on-scale-of-psi` as a theorem about the model; K carries it to the code.) -/
theorem admt_scale_invariant {β : Type} [Field β] (sqrt : β → β) (n : Nat) (radii psi : Nat → β)
    (M : Op5 → Nat → Nat → β) (dx dy an c : β) (i j : Nat) (hc : c ≠ 0) (ha : an ≠ 0) (hR : radii i ≠ 0)
    (hN : dotN n (M .Dx i) psi * dotN n (M .Dx i) psi + dotN n (M .Dy i) psi * dotN n (M .Dy i) psi ≠ 0) :
    admtEntry sqrt n radii M (fun k => c * psi k) dx dy an i j = admtEntry sqrt n radii M psi dx dy an i j := by
  unfold admtEntry admtCoeffs
  simp only [dotN_smul]
  rw [admt_coefficients_scale_invariant c an (radii i) _ _ _ _ _ _ _ _ _ hc ha hR hN]

/-- non-vacuity: the hypotheses of `admt_scale_invariant` hold e.g. for a 2-voxel "grid" with `Dx = [[-1, 1], …]` -/
example : admtEntry (fun x : ℚ => x) 2 (fun _ => 1) (fun op i j => if op = .Dx ∧ j = 1 then 1 else if op = .Dx then -1 else 0)
      (fun k => (-7) * (k : ℚ)) 1 1 2 0 1 =
    admtEntry (fun x : ℚ => x) 2 (fun _ => 1) (fun op i j => if op = .Dx ∧ j = 1 then 1 else if op = .Dx then -1 else 0)
      (fun k => (k : ℚ)) 1 1 2 0 1 := by
  refine admt_scale_invariant _ 2 _ (fun k => (k : ℚ)) _ 1 1 2 (-7) 0 1 (by norm_num) (by norm_num) (by norm_num) ?_
  simp [dotN, List.range, List.range.loop]

/-- **offset invariance**: `calculate_admt(ψ + c) = calculate_admt(ψ)` entry by entry on every generated grid — the
flux map enters only through its discrete derivatives and every operator annihilates constants; in particular a map
shifted so that its maximum or minimum is exactly 0 gives the same (finite) operator.  (The S oracle
`depends-on-offset-of-psi` as a theorem about the model.) -/
theorem admt_offset_invariant (nx ny i j : Nat) (h2x : 2 ≤ nx) (h2y : 2 ≤ ny) (hi : i < nx * ny)
    (sqrt : α → α) (radii psi : Nat → α) (gdx gdy dx dy an c : α) :
    admtEntry sqrt (nx * ny) radii (genOp nx ny gdx gdy) (fun k => psi k + c) dx dy an i j =
      admtEntry sqrt (nx * ny) radii (genOp nx ny gdx gdy) psi dx dy an i j := by
  unfold admtEntry admtCoeffs
  simp only [dotN_add_const, genOp_dot_const h2x h2y hi, add_zero]

/-- the nine boundary classes all occur already on a 3 × 3 grid, and voxel 4 is interior -/
example : interiorCell 3 3 4 := by unfold interiorCell; decide
example : (List.range 9).map (fun k => clsOf 3 3 (k / 3) (k % 3)) =
    [⟨true, false, true, false⟩, ⟨true, false, false, false⟩, ⟨true, false, false, true⟩,
     ⟨false, false, true, false⟩, ⟨false, false, false, false⟩, ⟨false, false, false, true⟩,
     ⟨false, true, true, false⟩, ⟨false, true, false, false⟩, ⟨false, true, false, true⟩] := by decide

/-- a concrete instance: `∂/∂x` of `f = 1 + 2x − 3y` in the corner voxel of a 2 × 2 grid with `dx = 1/2, dy = 3` -/
example : opTimes 2 2 (1 / 2 : ℚ) 3 .Dx (sample 2 5 7 (1 / 2) 3 (fun X Y => 1 + 2 * X + (-3) * Y)) 3 = some 2 :=
  (dx_dy_exact_linear 2 2 3 (by decide) (by decide) (by decide) (1 / 2) 3 5 7 1 2 (-3) (by norm_num) (by norm_num)).1

/-- the hypotheses of the ADMT theorems are satisfiable: a linear flux map `ψ = x + y` has discrete
`|∇ψ|² = 2 ≠ 0` in every voxel of every grid -/
example (nx ny i : Nat) (h2x : 2 ≤ nx) (h2y : 2 ≤ ny) (hi : i < nx * ny) :
    normalisationAt nx ny (1 : ℚ) 1 (sample ny 0 0 1 1 (fun X Y => 0 + 1 * X + 1 * Y)) i ≠ 0 := by
  obtain ⟨e1, e2⟩ := dx_dy_exact_linear nx ny i h2x h2y hi (1 : ℚ) 1 0 0 0 1 1 one_ne_zero one_ne_zero
  unfold normalisationAt
  rw [opTimes_genOp e1, opTimes_genOp e2]
  norm_num

/-- the witness behind the negative verdicts, evaluated: with the slot `dpsidyy` the code gives `cx = 0` where `1/R = 1` is required -/
example : dnormCxSlot = .dpsidyy → (coeffs (1 : ℚ) 1 1 1 0 0 1 0 0 0 0).cx = 0 := by
  intro h
  first
  | (norm_num [coeffs, Cherab.Admt.sq]; done)
  | (exfalso; revert h; decide)

end Cherab.Props.C20
