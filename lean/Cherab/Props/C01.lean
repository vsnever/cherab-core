import Cherab.Model.Invalidation
import Cherab.Model.NotifyGraph
import Mathlib.Logic.Relation

/-!
# C01 — changes never leave stale derived state: generic theorems

* `Inval.no_stale`, `Inval.stale_witness` (`Cherab/Model/Invalidation.lean`): if the clear-relation of a protocol covers
  its dependency relation, then after *every* history of parameter changes and observations an observation equals the
  from-scratch observation of the final configuration; an uncovered pair yields the stale history
  `[observe c, set p, observe c]`.
* Here the clear-relation is computed from a notification graph by bounded reachability (`protoOf`); the executable
  coverage check implies `Inval.Covered` for that protocol (`coveredBy_sound`), hence `no_stale_of_coveredBy`.
* `reachWithin_sound`, `reaches_sound`: a positive answer of the bounded search is a real chain of edges.  The no-stale
  theorems do not depend on them (`clears` is *defined* by the search).
-/
namespace Cherab.Props.C01
open Cherab.NotifyGraph

def protoOf (names : List String) (es : List (Nat × Nat)) (fuel : Nat) (t : DepTable) : Inval.Proto String String :=
  { deps := depsOf t, clears := clearsOf names es fuel t }

theorem mem_depsOf {t : DepTable} {c p : String} : p ∈ depsOf t c ↔ ∃ e ∈ t, e.1 = c ∧ p ∈ e.2 := by
  simp only [depsOf, List.mem_flatMap, List.mem_filter, beq_iff_eq, and_assoc]

theorem mem_cachesOf {t : DepTable} {c : String} : c ∈ cachesOf t ↔ ∃ e ∈ t, e.1 = c := by
  simp only [cachesOf, List.mem_eraseDups, List.mem_map]

theorem all_deps_iff (f : String → String → Bool) {t : DepTable} :
    (t.all fun e => e.2.all fun p => f p e.1) = true ↔ ∀ c p, p ∈ depsOf t c → f p c = true := by
  simp only [List.all_eq_true, mem_depsOf]
  constructor
  · rintro h c p ⟨e, he, rfl, hp⟩; exact h e he p hp
  · intro h e he p hp; exact h e.1 p ⟨e, he, rfl, hp⟩

theorem coveredBy_iff {names : List String} {es : List (Nat × Nat)} {fuel : Nat} {t : DepTable} :
    coveredBy names es fuel t = true ↔ ∀ c p, p ∈ depsOf t c → reaches names es fuel p c = true :=
  all_deps_iff _

theorem coveredBy_sound (names : List String) (es : List (Nat × Nat)) (fuel : Nat) (t : DepTable)
    (h : coveredBy names es fuel t = true) : Inval.Covered (protoOf names es fuel t) := by
  intro c p hp
  obtain ⟨e, he, hec, -⟩ := mem_depsOf.mp hp
  exact List.mem_filter.mpr ⟨mem_cachesOf.mpr ⟨e, he, hec⟩, coveredBy_iff.mp h c p hp⟩

/-- C01 for any graph and table: if the coverage check passes for a notification graph and dependency table, then after any
finite history of mutators interleaved with observations, observing any derived state returns exactly what a scene
built from scratch in the final configuration returns. -/
theorem no_stale_of_coveredBy (names : List String) (es : List (Nat × Nat)) (fuel : Nat) (t : DepTable)
    (h : coveredBy names es fuel t = true) (ops : List (Inval.Op String String)) (c : String) :
    let pr := protoOf names es fuel t
    let s := Inval.run pr Inval.init ops
    (Inval.step pr s (.obs c)).2 = some ((pr.deps c).map s.ver) :=
  Inval.no_stale _ (coveredBy_sound names es fuel t h) ops c

theorem obs_irrelevant_of_covered {P C : Type} [DecidableEq P] [DecidableEq C] (pr : Inval.Proto P C)
    (hc : Inval.Covered pr) (ops₁ ops₂ : List (Inval.Op P C)) (c d : C) :
    (Inval.step pr (Inval.run pr Inval.init (ops₁ ++ .obs d :: ops₂)) (.obs c)).2
      = (Inval.step pr (Inval.run pr Inval.init (ops₁ ++ ops₂)) (.obs c)).2 := by
  rw [Inval.no_stale pr hc, Inval.no_stale pr hc, Inval.run_ver_obs]

/-- C01's "never on what was evaluated in between", for a graph and table that pass the check; stated for an observation
`d` made directly before the observation `c` (`obs_irrelevant_of_covered` has it anywhere in the history). -/
theorem obs_irrelevant (names : List String) (es : List (Nat × Nat)) (fuel : Nat) (t : DepTable)
    (h : coveredBy names es fuel t = true) (ops : List (Inval.Op String String)) (c d : String) :
    let pr := protoOf names es fuel t
    (Inval.step pr (Inval.run pr Inval.init (ops ++ [.obs d])) (.obs c)).2
      = (Inval.step pr (Inval.run pr Inval.init ops) (.obs c)).2 := by
  have h := obs_irrelevant_of_covered _ (coveredBy_sound names es fuel t h) ops [] c d
  rwa [List.append_nil] at h

/-- non-vacuity: a two-node graph where the setter reaches the cache -/
example : coveredBy ["p", "c"] [(0, 1)] 3 [("c", ["p"])] = true := by decide

example : coveredBy ["p", "c"] [] 3 [("c", ["p"])] = false := by decide

def Edge (es : List (Nat × Nat)) (a b : Nat) : Prop := (a, b) ∈ es

theorem mem_succs {es : List (Nat × Nat)} {a b : Nat} : b ∈ succs es a ↔ Edge es a b := by
  simp only [succs, Edge, List.mem_map, List.mem_filter, beq_iff_eq]
  constructor
  · rintro ⟨e, ⟨hm, rfl⟩, rfl⟩; exact hm
  · intro h; exact ⟨(a, b), ⟨h, rfl⟩, rfl⟩

theorem mem_stepSet {es : List (Nat × Nat)} {s : List Nat} {b : Nat} :
    b ∈ stepSet es s ↔ b ∈ s ∨ ∃ a ∈ s, Edge es a b := by
  simp only [stepSet, List.mem_eraseDups, List.mem_append, List.mem_flatMap, mem_succs]

theorem reachWithin_sound (es : List (Nat × Nat)) (fuel : Nat) (s : List Nat) (b : Nat)
    (h : b ∈ reachWithin es fuel s) : ∃ a ∈ s, Relation.ReflTransGen (Edge es) a b := by
  induction fuel generalizing s with
  | zero => exact ⟨b, h, .refl⟩
  | succ f ih =>
    obtain ⟨m, hm, hmb⟩ := ih (stepSet es s) h
    rcases mem_stepSet.mp hm with hm | ⟨a, ha, e⟩
    · exact ⟨m, hm, hmb⟩
    · exact ⟨a, ha, .head e hmb⟩

/-- `reaches … a b = true` exhibits a genuine call/notification chain from `a` to `b` -/
theorem reaches_sound (names : List String) (es : List (Nat × Nat)) (fuel : Nat) (a b : String)
    (h : reaches names es fuel a b = true) :
    ∃ i j, idOf names a = some i ∧ idOf names b = some j ∧ Relation.ReflTransGen (Edge es) i j := by
  unfold reaches at h
  split at h
  · rename_i i j hi hj
    obtain ⟨x, hx, hr⟩ := reachWithin_sound es fuel [i] j (List.contains_iff_mem.mp h)
    obtain rfl := List.mem_singleton.mp hx
    exact ⟨x, j, hi, hj, hr⟩
  · cases h

end Cherab.Props.C01
