import Cherab.Gen.RepoPaths

namespace Cherab.Props.C06Table
open Cherab.Gen.RepoPaths

/-- **`encode_is_str_lower`**: `utility.encode_transition` applies to each level `str()` then `.lower()` and nothing else
(no `strip`, `replace`, …) and joins them with `' -> '` — exactly what `Repository.encodeTransition` transcribes, so that
`transition_key_iff_lower_equal` / `padding_and_spacing_are_significant` speak about the code's keys -/
theorem encode_is_str_lower : tables.encodeOk = true := by decide +kernel

end Cherab.Props.C06Table
