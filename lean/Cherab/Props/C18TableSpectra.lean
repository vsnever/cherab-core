import Cherab.Props.C18
import Cherab.Gen.LaserEdges
namespace Cherab.Props.C18Table
open Cherab.Laser Cherab.Props.C18 Cherab.Gen.LaserEdges

/-- every spectrum setter that writes a field read by `_update_cache` (through `_get_bin_power_spectral_density` /
`evaluate`) re-bins -/
theorem covered_spectra : spectra.all coveredB = true := by decide +kernel

end Cherab.Props.C18Table
