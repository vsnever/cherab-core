import Cherab.Props.C18
import Cherab.Gen.LaserEdges
namespace Cherab.Props.C18Table
open Cherab.Laser Cherab.Props.C18 Cherab.Gen.LaserEdges

/-- specification of the `cpdef get_*` accessors: which attribute each reports -/
def methodGetterSpec : List (String × String) :=
  [("get_min_wavelenth", "_min_wavelength"), ("get_max_wavelenth", "_max_wavelength"),
   ("get_spectral_bins", "_bins"), ("get_delta_wavelength", "_delta_wavelength")]

/-- a property `x` returns `self._x`; a `get_*` method returns the attribute of the specification -/
def getterOwnB (g : Getter) : Bool :=
  if g.isProperty then g.field == "_" ++ g.name
  else match methodGetterSpec.lookup g.name with
    | some f => g.field == f
    | none => false

theorem getter_returns_own_field : classes.all (fun t => t.getters.all getterOwnB) = true := by decide +kernel

end Cherab.Props.C18Table
