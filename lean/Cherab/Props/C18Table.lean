import Cherab.Props.C18
import Cherab.Gen.LaserEdges

/-!
# C18 — theorems about the class tables generated from /repo's *current* source (`Gen/LaserEdges.lean`)

This module holds the structural obligations (the translator understood every statement; the tables are well formed;
the constructors call every setter; geometry changes notify).  The obligations that correspond to known defects of
the unchanged tree live in their own modules so that each is attributed separately:
`C18TableProfiles` (covered_profiles), `C18TableSpectra` (covered_spectra), `C18TableGetters`
(getter_returns_own_field), `C18TableAtomic` (rejected_assignments_atomic), `C18TableFresh` (history_eq_fresh_all for
the six classes).
-/
namespace Cherab.Props.C18Table
open Cherab.Laser Cherab.Props.C18 Cherab.Gen.LaserEdges

def ctorOpKnown : CtorOp → Bool
  | .unknown _ => false
  | _ => true

/-- nothing in the class was beyond the translator: guards, right-hand sides, getters, geometry call, constructor -/
def understoodB (t : Cls) : Bool :=
  (t.setters.all fun s => s.guard != .unknown && s.writes.all fun w => w.2 != .unknown) &&
  (t.getters.all fun g => g.field != "?") &&
  (t.geometryReads.all fun f => f != "?") && (t.rebuildPositive.all fun f => f != "?") &&
  t.ctor.all ctorOpKnown && t.binPsd != .unknown && t.evaluate != .unknown &&
  (t.isSpectrum == (t.binPsd != .none)) && (t.isSpectrum == (t.evaluate != .none)) &&
  (t.isSpectrum || t.geometryReads.length == 2)

theorem six_classes : classes.map (·.name) =
    ["UniformEnergyDensity", "ConstantBivariateGaussian", "TrivariateGaussian", "GaussianBeamAxisymmetric",
     "ConstantSpectrum", "GaussianSpectrum"] := by decide +kernel

theorem tables_understood : classes.all understoodB = true := by decide +kernel

theorem tables_well_formed :
    classes.all (fun t => propsUniqueB t && singleWriterB t && positiveWrittenB t && gettersOwnB t && observedOkB t) = true := by
  decide +kernel

theorem constructors_complete : classes.all ctorOkB = true := by decide +kernel

/-- range handling has the expected shape, every positivity-guarded setter is run by the constructor, and at every
rebuild inside a constructor the fields the inner function insists on are already positive -/
theorem constructors_accept_valid_parameters :
    classes.all (fun t => rangeShapeB t && ctorSetsPositiveB t && ctorPosCheck t t.ctor []) = true := by decide +kernel

/-- laser_radius / laser_length setters of every profile notify the listeners (the Laser node rebuilds its segments) -/
theorem geometry_changes_notify : profiles.all geometryCoveredB = true := by decide +kernel

/-- SPEED_OF_LIGHT as read from constants.pyx is the exact SI value -/
theorem speed_of_light_exact : speedOfLight = (2997924580, 1) := rfl

/-! ### non-vacuity: the hypotheses of `history_eq_fresh` are satisfiable on the generated tables -/

def triArgs : String → ℚ := fun a =>
  if a = "pulse_energy" then 2 else if a = "pulse_length" then 1/1000 else if a = "mean_z" then 1/2
  else if a = "laser_length" then 3 else if a = "laser_radius" then 1/20 else if a = "stddev_x" then 1/100
  else if a = "stddev_y" then 1/50 else 0

example : coveredB clsTrivariateGaussian = true ∧ atomicB clsTrivariateGaussian = true := by decide +kernel
example : (runCtor qExt clsTrivariateGaussian triArgs).2 = .ok := by decide +kernel
-- a rejected assignment …
example : (setProp qExt clsTrivariateGaussian (runCtor qExt clsTrivariateGaussian triArgs).1 "stddev_x" (-1)).2
    = .valueError := by decide +kernel
-- … and an accepted one that also updates the derived field `_stddev_z = pulse_length · c`
example : ((runOps qExt clsTrivariateGaussian (runCtor qExt clsTrivariateGaussian triArgs).1
    [("pulse_length", 1/500), ("stddev_x", -1)]).snap "_stddev_z") = 299792458 / 500 := by decide +kernel
-- the object reports what was assigned, and a fresh construction from the report is accepted
example : reported clsTrivariateGaussian (runOps qExt clsTrivariateGaussian (runCtor qExt clsTrivariateGaussian triArgs).1
    [("pulse_length", 1/500), ("stddev_x", -1)]) "pulse_length" = 1/500 := by decide +kernel
example : (runCtor qExt clsTrivariateGaussian (reported clsTrivariateGaussian
    (runOps qExt clsTrivariateGaussian (runCtor qExt clsTrivariateGaussian triArgs).1
      [("pulse_length", 1/500), ("stddev_x", -1)]))).2 = .ok := by decide +kernel

end Cherab.Props.C18Table
