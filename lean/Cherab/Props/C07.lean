import Cherab.Model.Rates
import Cherab.Lemmas.Rates
import Mathlib.Tactic.Ring


/-!
# C07 — OpenADAS rates reproduce stored tables and honour the range / missing-data policy

Property theorems about `Cherab/Model/Rates.lean`, for every table size and every input, over an arbitrary ordered
field.  `10 ** x`, the two `log10`s and raysect's interpolators are parameters constrained by `ExtSpec`
(the contract of an interpolant: passes through its knots; inside the knot range it returns; outside it raises iff
the extrapolation type is 'none').  The table-dependent obligations are in `Props/C07Table.lean`.
-/
namespace Cherab.Props.C07
set_option linter.unusedSectionVars false
set_option linter.unusedVariables false
open Cherab.Rates

variable {α : Type} [Field α] [LinearOrder α] [IsStrictOrderedRing α]


/-- **table reproduction** (2-D classes): at a grid point the rate equals the stored value after the unit
conversion — provided the two `log10`s agree on that grid point's coordinates (see `grid2_edge_knot_raises`). -/
theorem grid2_at_knot {E : Ext α} (S : ExtSpec E) (cf : α) (wl : Option α) (hcf : 0 < cf) (hwl : ∀ w ∈ wl, 0 < w)
    (k : Extrap) (ex : Bool) (t : Table2 α) (h : WF2 t) (h1 : 2 ≤ t.ne.length) (h2 : 2 ≤ t.te.length)
    (i j : Nat) (n T y : α) (row : List α) (hn : t.ne[i]? = some n) (hT : t.te[j]? = some T)
    (hrow : t.rate[i]? = some row) (hy : row[j]? = some y)
    (hln : E.loge n = E.logc n) (hlT : E.loge T = E.logc T) :
    grid2 E cf wl k ex t n T = Out.val (conv cf wl y) := by
  have hypos : 0 < y := h.pos row (List.mem_of_getElem? hrow) y (List.mem_of_getElem? hy)
  have hv := S.i2_knot (kindOf k ex) _ _ _ i j _ _ _ _ (valid2_map S h.ne h.te h1 h2 h.rows h.cols (fun y => E.logc (conv cf wl y)))
    (getElem?_map_of _ hn) (getElem?_map_of _ hT) (getElem?_map_of _ hrow) (getElem?_map_of _ hy)
  rw [grid2_of_pos h1 h2 (h.ne.pos_at hn) (h.te.pos_at hT), hln, hlT, hv]
  exact congrArg Out.val (S.pow_log _ (conv_pos cf wl hcf hwl y hypos))


theorem grid2_at_knot_raw {E : Ext α} (S : ExtSpec E) (hl : LogAgree E) (cf : α) (wl : Option α) (hcf : 0 < cf)
    (hwl : ∀ w ∈ wl, 0 < w) (k : Extrap) (ex : Bool) (t : Table2 α) (h : WF2 t) (h1 : 2 ≤ t.ne.length)
    (h2 : 2 ≤ t.te.length) (i j : Nat) (n T y : α) (row : List α) (hn : t.ne[i]? = some n) (hT : t.te[j]? = some T)
    (hrow : t.rate[i]? = some row) (hy : row[j]? = some y) :
    grid2 E cf wl k ex t n T = Out.val (conv cf wl y) :=
  grid2_at_knot S cf wl hcf hwl k ex t h h1 h2 i j n T y row hn hT hrow hy
    (hl n (h.ne.pos_at hn)) (hl T (h.te.pos_at hT))


/-- **non-negativity**, for every table (well-formed or not) and all arguments -/
theorem grid2_nonneg {E : Ext α} (S : ExtSpec E) (cf : α) (wl : Option α) (k : Extrap) (ex : Bool) (t : Table2 α)
    (d T v : α) (h : grid2 E cf wl k ex t d T = Out.val v) : 0 ≤ v := by
  unfold grid2 at h
  split_ifs at h with h1 h2
  · cases h; exact le_refl _
  · split at h
    · cases h; exact (S.pow_pos _).le
    · cases h


/-- **zero on a non-positive density or temperature** (whenever the object could be constructed) -/
theorem grid2_zero_on_nonpositive (E : Ext α) (cf : α) (wl : Option α) (k : Extrap) (ex : Bool) (t : Table2 α)
    (h1 : 2 ≤ t.ne.length) (h2 : 2 ≤ t.te.length) (d T : α) (h : d ≤ 0 ∨ T ≤ 0) :
    grid2 E cf wl k ex t d T = Out.val 0 := by
  rw [grid2, if_neg (by omega), if_pos h]


/-- raysect refuses a single-point axis: the accessor raises ValueError instead of returning a rate object -/
theorem grid2_single_point_axis (E : Ext α) (cf : α) (wl : Option α) (k : Extrap) (ex : Bool) (t : Table2 α)
    (h : t.ne.length < 2 ∨ t.te.length < 2) (d T : α) : grid2 E cf wl k ex t d T = Out.ctorError := by
  rw [grid2, if_pos h]


/-- **range policy, extrapolation not permitted**: outside the tabulated range (in the log space the code compares
in) the call raises -/
theorem grid2_outside_raises {E : Ext α} (S : ExtSpec E) (cf : α) (wl : Option α) (k : Extrap) (t : Table2 α)
    (h : WF2 t) (h1 : 2 ≤ t.ne.length) (h2 : 2 ≤ t.te.length) (d T : α) (hd : 0 < d) (hT : 0 < T)
    (hout : Below (t.ne.map E.logc) (E.loge d) ∨ Above (t.ne.map E.logc) (E.loge d) ∨
      Below (t.te.map E.logc) (E.loge T) ∨ Above (t.te.map E.logc) (E.loge T)) :
    grid2 E cf wl k false t d T = Out.valueError := by
  rw [grid2_of_pos h1 h2 hd hT, kindOf_false, S.i2_outside _ _ _ _ _ (valid2_map S h.ne h.te h1 h2 h.rows h.cols _) hout]


/-- the same in terms of the raw arguments when the two `log10`s agree -/
theorem grid2_below_density_range_raises {E : Ext α} (S : ExtSpec E) (hl : LogAgree E) (cf : α) (wl : Option α)
    (k : Extrap) (t : Table2 α) (h : WF2 t) (h1 : 2 ≤ t.ne.length) (h2 : 2 ≤ t.te.length) (d T n0 : α)
    (hd : 0 < d) (hT : 0 < T) (hn0 : t.ne.head? = some n0) (hlt : d < n0) :
    grid2 E cf wl k false t d T = Out.valueError :=
  grid2_outside_raises S cf wl k t h h1 h2 d T hd hT
    (Or.inl ⟨E.logc n0, by rw [List.head?_map, hn0]; rfl, by rw [hl d hd]; exact S.logc_mono d n0 hd hlt⟩)


theorem grid2_above_temperature_range_raises {E : Ext α} (S : ExtSpec E) (hl : LogAgree E) (cf : α) (wl : Option α)
    (k : Extrap) (t : Table2 α) (h : WF2 t) (h1 : 2 ≤ t.ne.length) (h2 : 2 ≤ t.te.length) (d T T1 : α)
    (hd : 0 < d) (hT : 0 < T) (hT1 : t.te.getLast? = some T1) (hlt : T1 < T) :
    grid2 E cf wl k false t d T = Out.valueError :=
  grid2_outside_raises S cf wl k t h h1 h2 d T hd hT
    (Or.inr (Or.inr (Or.inr ⟨E.logc T1, by rw [List.getLast?_map, hT1]; rfl, by
      rw [hl T hT]; exact S.logc_mono T1 T (h.te.2 T1 (List.mem_of_getLast? hT1)) hlt⟩)))


/-- **the float gap, as a theorem about the model**: if libm's `log10` of the lowest tabulated density is smaller
than NumPy's (1 ulp suffices), evaluating *at that grid point* raises instead of reproducing the table (finding
C07:grid-point:edge-knot-raises).  Since de3325a the source takes the logarithms of the knots with libm's `log10`
too: `axis_logs_libm` (`Props/C07Table.lean`). -/
theorem grid2_edge_knot_raises {E : Ext α} (S : ExtSpec E) (cf : α) (wl : Option α) (k : Extrap) (t : Table2 α)
    (h : WF2 t) (h1 : 2 ≤ t.ne.length) (h2 : 2 ≤ t.te.length) (n0 T : α) (hT : 0 < T)
    (hn0 : t.ne.head? = some n0) (hgap : E.loge n0 < E.logc n0) :
    grid2 E cf wl k false t n0 T = Out.valueError :=
  grid2_outside_raises S cf wl k t h h1 h2 n0 T (h.ne.2 n0 (List.mem_of_head? hn0)) hT
    (Or.inl ⟨E.logc n0, by rw [List.head?_map, hn0]; rfl, hgap⟩)


/-- **range policy, extrapolation permitted**: every positive argument pair yields a (positive) value -/
theorem grid2_extrapolated_returns {E : Ext α} (S : ExtSpec E) (cf : α) (wl : Option α) (k : Extrap)
    (hk : k ≠ Extrap.none) (t : Table2 α) (h : WF2 t) (h1 : 2 ≤ t.ne.length) (h2 : 2 ≤ t.te.length) (d T : α)
    (hd : 0 < d) (hT : 0 < T) : ∃ v, 0 < v ∧ grid2 E cf wl k true t d T = Out.val v := by
  obtain ⟨v, hv⟩ := Option.isSome_iff_exists.mp (S.i2_extrap k _ _ _ (E.loge d) (E.loge T)
    (valid2_map S h.ne h.te h1 h2 h.rows h.cols (fun y => E.logc (conv cf wl y))) hk)
  exact ⟨_, S.pow_pos v, by rw [grid2_of_pos h1 h2 hd hT, kindOf_true, hv]⟩


/-- inside the tabulated range a value is returned whatever the extrapolation setting -/
theorem grid2_within_returns {E : Ext α} (S : ExtSpec E) (cf : α) (wl : Option α) (k : Extrap) (ex : Bool)
    (t : Table2 α) (h : WF2 t) (h1 : 2 ≤ t.ne.length) (h2 : 2 ≤ t.te.length) (d T : α) (hd : 0 < d) (hT : 0 < T)
    (hin1 : Within (t.ne.map E.logc) (E.loge d)) (hin2 : Within (t.te.map E.logc) (E.loge T)) :
    ∃ v, 0 < v ∧ grid2 E cf wl k ex t d T = Out.val v := by
  obtain ⟨v, hv⟩ := Option.isSome_iff_exists.mp (S.i2_within (kindOf k ex) _ _ _ (E.loge d) (E.loge T)
    (valid2_map S h.ne h.te h1 h2 h.rows h.cols (fun y => E.logc (conv cf wl y))) hin1 hin2)
  exact ⟨_, S.pow_pos v, by rw [grid2_of_pos h1 h2 hd hT, hv]⟩


/-- **documented unit conversion** of the photon emission coefficients: `x ↦ x · (hc·10⁹) / λ` -/
theorem conv_photon (cf w x : α) : conv cf (some w) x = x * cf / w :=
  div_mul_eq_mul_div x w cf


theorem conv_plain (cf x : α) : conv cf none x = x := rfl


/-- a different wavelength gives a different converted value: the species whose wavelength is used matters -/
theorem conv_photon_injective_in_wavelength (cf w w' x : α) (hcf : 0 < cf) (hx : 0 < x) (hw : 0 < w) (hw' : 0 < w')
    (h : conv cf (some w) x = conv cf (some w') x) : w = w' := by
  have h' : x / w = x / w' := mul_right_cancel₀ hcf.ne' h
  exact (mul_left_cancel₀ hx.ne' ((div_eq_div_iff hw.ne' hw'.ne').mp h')).symm


/-- **table reproduction** (ThermalCXPEC) -/
theorem grid3_at_knot {E : Ext α} (S : ExtSpec E) (cf wl : α) (hcf : 0 < cf) (hwl : 0 < wl) (ex : Bool)
    (t : Table3 α) (h : WF3 t) (h1 : 2 ≤ t.ne.length) (h2 : 2 ≤ t.te.length) (h3 : 2 ≤ t.td.length)
    (i j l : Nat) (n T D y : α) (pl : List (List α)) (row : List α)
    (hn : t.ne[i]? = some n) (hT : t.te[j]? = some T) (hD : t.td[l]? = some D)
    (hpl : t.rate[i]? = some pl) (hrow : pl[j]? = some row) (hy : row[l]? = some y)
    (hln : E.loge n = E.logc n) (hlT : E.loge T = E.logc T) (hlD : E.loge D = E.logc D) :
    grid3 E cf wl ex t n T D = Out.val (photonToJ cf y wl) := by
  have hypos : 0 < y :=
    h.pos pl (List.mem_of_getElem? hpl) row (List.mem_of_getElem? hrow) y (List.mem_of_getElem? hy)
  have hv := S.i3_knot (kindOf Extrap.nearest ex) _ _ _ _ i j l _ _ _ _ _ _
    (valid3_of_wf S h (fun y => E.logc (photonToJ cf y wl)) h1 h2 h3) (getElem?_map_of _ hn) (getElem?_map_of _ hT)
    (getElem?_map_of _ hD) (getElem?_map_of _ hpl) (getElem?_map_of _ hrow) (getElem?_map_of _ hy)
  rw [grid3_of_pos h1 h2 h3 (h.ne.pos_at hn) (h.te.pos_at hT) (h.td.pos_at hD), hln, hlT, hlD, hv]
  exact congrArg Out.val (S.pow_log _ (photonToJ_pos hcf hypos hwl))


theorem grid3_nonneg {E : Ext α} (S : ExtSpec E) (cf wl : α) (ex : Bool) (t : Table3 α) (d T D v : α)
    (h : grid3 E cf wl ex t d T D = Out.val v) : 0 ≤ v := by
  unfold grid3 at h
  split_ifs at h with h1 h2
  · cases h; exact le_refl _
  · split at h
    · cases h; exact (S.pow_pos _).le
    · cases h


theorem grid3_zero_on_nonpositive (E : Ext α) (cf wl : α) (ex : Bool) (t : Table3 α) (h1 : 2 ≤ t.ne.length)
    (h2 : 2 ≤ t.te.length) (h3 : 2 ≤ t.td.length) (d T D : α) (h : d ≤ 0 ∨ T ≤ 0 ∨ D ≤ 0) :
    grid3 E cf wl ex t d T D = Out.val 0 := by
  rw [grid3, if_neg (by omega), if_pos h]


theorem grid3_outside_raises {E : Ext α} (S : ExtSpec E) (cf wl : α) (t : Table3 α) (h : WF3 t)
    (h1 : 2 ≤ t.ne.length) (h2 : 2 ≤ t.te.length) (h3 : 2 ≤ t.td.length) (d T D : α) (hd : 0 < d) (hT : 0 < T)
    (hD : 0 < D)
    (hout : Below (t.ne.map E.logc) (E.loge d) ∨ Above (t.ne.map E.logc) (E.loge d) ∨
      Below (t.te.map E.logc) (E.loge T) ∨ Above (t.te.map E.logc) (E.loge T) ∨
      Below (t.td.map E.logc) (E.loge D) ∨ Above (t.td.map E.logc) (E.loge D)) :
    grid3 E cf wl false t d T D = Out.valueError := by
  rw [grid3_of_pos h1 h2 h3 hd hT hD, kindOf_false, S.i3_outside _ _ _ _ _ _ _ (valid3_of_wf S h _ h1 h2 h3) hout]


theorem grid3_extrapolated_returns {E : Ext α} (S : ExtSpec E) (cf wl : α) (t : Table3 α) (h : WF3 t)
    (h1 : 2 ≤ t.ne.length) (h2 : 2 ≤ t.te.length) (h3 : 2 ≤ t.td.length) (d T D : α) (hd : 0 < d) (hT : 0 < T)
    (hD : 0 < D) : ∃ v, 0 < v ∧ grid3 E cf wl true t d T D = Out.val v := by
  obtain ⟨v, hv⟩ := Option.isSome_iff_exists.mp (S.i3_extrap Extrap.nearest _ _ _ _ (E.loge d) (E.loge T)
    (E.loge D) (valid3_of_wf S h (fun y => E.logc (photonToJ cf y wl)) h1 h2 h3) (by decide))
  exact ⟨_, S.pow_pos v, by rw [grid3_of_pos h1 h2 h3 hd hT hD, kindOf_true, hv]⟩


/-- every Null class evaluates to zero, whatever the arguments -/
theorem null_rate_zero : (nullRate : Out α) = Out.val 0 := rfl


/-- the energy–density factor at a grid point, through whichever of the four constructions `__init__` chose -/
theorem beamNpl_at_knot {E : Ext α} (S : ExtSpec E) (cf : α) (wl : Option α) (ex : Bool) (b : BeamTable α)
    (h : WFB b) (i j : Nat) (en d y : α) (row : List α) (he : b.e[i]? = some en) (hn : b.n[j]? = some d)
    (hrow : b.sen[i]? = some row) (hy : row[j]? = some y) (hle : E.loge en = E.logc en)
    (hld : E.loge d = E.logc d) :
    beamNpl E cf wl ex b en d = some (E.logc (conv cf wl y)) := by
  have hr : (b.logSen E cf wl)[i]? = some (row.map fun y => E.logc (conv cf wl y)) := getElem?_map_of _ hrow
  have hv := getElem?_map_of (fun y => E.logc (conv cf wl y)) hy
  rw [beamNpl_eq]
  split_ifs with ce cn cn
  · -- Constant2D
    obtain rfl := idx_zero_of_length_one he ce
    obtain rfl := idx_zero_of_length_one hn cn
    rw [headD_of_getElem?_zero hr, headD_of_getElem?_zero hv]
  · -- single energy: 1-D in density
    obtain rfl := idx_zero_of_length_one he ce
    rw [hld]
    refine S.i1_knot _ _ _ j _ _ (valid1_sen_row S cf wl h (h.two_le_n cn)) (getElem?_map_of _ hn) ?_
    rwa [headD_of_getElem?_zero hr]
  · -- single density: 1-D in energy
    obtain rfl := idx_zero_of_length_one hn cn
    rw [hle]
    refine S.i1_knot _ _ _ i _ _ (valid1_sen_col S cf wl h (h.two_le_e ce)) (getElem?_map_of _ he) ?_
    rw [getElem?_map_of _ hr, headD_of_getElem?_zero hv]
  · -- 2-D
    rw [hle, hld]
    exact S.i2_knot _ _ _ _ i j _ _ _ _ (valid2_sen S cf wl h (h.two_le_e ce) (h.two_le_n cn)) (getElem?_map_of _ he)
      (getElem?_map_of _ hn) hr hv


/-- **table reproduction** (beam coefficients): `sen · st / sref` after the photon conversion of `sen`, for every
combination of single-point / multi-point energy and density axes -/
theorem beam_at_knot {E : Ext α} (S : ExtSpec E) (cf : α) (wl : Option α) (hcf : 0 < cf) (hwl : ∀ w ∈ wl, 0 < w)
    (ex : Bool) (b : BeamTable α) (h : WFB b) (i j k : Nat) (en d T y s : α) (row : List α)
    (he : b.e[i]? = some en) (hn : b.n[j]? = some d) (ht : b.t[k]? = some T)
    (hrow : b.sen[i]? = some row) (hy : row[j]? = some y) (hs : b.st[k]? = some s)
    (hle : E.loge en = E.logc en) (hld : E.loge d = E.logc d) (hlT : E.loge T = E.logc T) :
    beam E cf wl ex b en d T = Out.val (conv cf wl y * s / b.sref) := by
  have hypos : 0 < y := h.pos row (List.mem_of_getElem? hrow) y (List.mem_of_getElem? hy)
  have hspos : 0 < s := h.stpos s (List.mem_of_getElem? hs)
  have hc := S.i1_knot (kindOf Extrap.quadratic ex) _ _ k _ _ (valid1_t S h) (getElem?_map_of _ ht)
    (getElem?_map_of (fun y => E.logc (y / b.sref)) hs)
  rw [beam_of_pos (beamCtorOk_of_wf h) (h.e.pos_at he) (h.n.pos_at hn) (h.t.pos_at ht),
    beamNpl_at_knot S cf wl ex b h i j en d y row he hn hrow hy hle hld, hlT, hc]
  exact congrArg Out.val (by
    rw [S.pow_add, S.pow_log _ (conv_pos cf wl hcf hwl y hypos), S.pow_log _ (div_pos hspos h.sref), mul_div_assoc])


theorem beam_nonneg {E : Ext α} (S : ExtSpec E) (cf : α) (wl : Option α) (ex : Bool) (b : BeamTable α)
    (en d T v : α) (h : beam E cf wl ex b en d T = Out.val v) : 0 ≤ v := by
  unfold beam at h
  split_ifs at h with h1 h2
  · cases h; exact le_refl _
  · split at h
    · cases h
    · split at h
      · cases h
      · cases h; exact (S.pow_pos _).le


theorem beam_zero_on_nonpositive (E : Ext α) (cf : α) (wl : Option α) (ex : Bool) (b : BeamTable α)
    (hc : beamCtorOk b = true) (en d T : α) (h : en ≤ 0 ∨ d ≤ 0 ∨ T ≤ 0) :
    beam E cf wl ex b en d T = Out.val 0 := by
  simp only [beam, hc, Bool.not_true, Bool.false_eq_true, if_false, if_pos h]


/-- temperature outside the tabulated range, extrapolation not permitted: raises -/
theorem beam_temperature_outside_raises {E : Ext α} (S : ExtSpec E) (cf : α) (wl : Option α) (b : BeamTable α)
    (h : WFB b) (en d T : α) (he : 0 < en) (hd : 0 < d) (hT : 0 < T)
    (hout : Below (b.t.map E.logc) (E.loge T) ∨ Above (b.t.map E.logc) (E.loge T)) :
    beam E cf wl false b en d T = Out.valueError := by
  rw [beam_of_pos (beamCtorOk_of_wf h) he hd hT, kindOf_false, S.i1_outside _ _ _ (valid1_t S h) hout]
  split <;> rfl


/-- energy or density outside the tabulated range of a genuinely two-dimensional `sen`: raises -/
theorem beam_energy_density_outside_raises {E : Ext α} (S : ExtSpec E) (cf : α) (wl : Option α) (b : BeamTable α)
    (h : WFB b) (he2 : 2 ≤ b.e.length) (hn2 : 2 ≤ b.n.length) (en d T : α) (he : 0 < en) (hd : 0 < d) (hT : 0 < T)
    (hout : Below (b.e.map E.logc) (E.loge en) ∨ Above (b.e.map E.logc) (E.loge en) ∨
      Below (b.n.map E.logc) (E.loge d) ∨ Above (b.n.map E.logc) (E.loge d)) :
    beam E cf wl false b en d T = Out.valueError := by
  rw [beam_of_pos (beamCtorOk_of_wf h) he hd hT, beamNpl_eq, if_neg (by omega), if_neg (by omega),
    kindOf_false, S.i2_outside _ _ _ _ _ (valid2_sen S cf wl h he2 hn2) hout]


/-- beam coefficients, single-point **energy** axis (several densities): the energy–density factor does not look at the
energy — any energy, inside or outside what would be a range, gives the same factor -/
theorem beamNpl_single_energy_axis (E : Ext α) (cf : α) (wl : Option α) (ex : Bool) (b : BeamTable α)
    (he : b.e.length = 1) (en en' d : α) : beamNpl E cf wl ex b en d = beamNpl E cf wl ex b en' d := by
  simp only [beamNpl_eq, he, if_true]

/-- … and single-point **density** axis (several energies): the factor does not look at the density -/
theorem beamNpl_single_density_axis (E : Ext α) (cf : α) (wl : Option α) (ex : Bool) (b : BeamTable α)
    (hn : b.n.length = 1) (en d d' : α) : beamNpl E cf wl ex b en d = beamNpl E cf wl ex b en d' := by
  simp only [beamNpl_eq, hn, if_true]

/-- a single-point energy *and* density axis tabulates no dependence: the factor ignores both arguments (there is
no range to leave along such an axis) -/
theorem beamNpl_single_point_constant (E : Ext α) (cf : α) (wl : Option α) (ex : Bool) (b : BeamTable α)
    (he : b.e.length = 1) (hn : b.n.length = 1) (en d en' d' : α) :
    beamNpl E cf wl ex b en d = beamNpl E cf wl ex b en' d' :=
  (beamNpl_single_energy_axis E cf wl ex b he en en' d).trans (beamNpl_single_density_axis E cf wl ex b hn en' d d')


/-- **range policy, extrapolation permitted** (beam coefficients): never raises, returns a positive value -/
theorem beam_extrapolated_returns {E : Ext α} (S : ExtSpec E) (cf : α) (wl : Option α) (b : BeamTable α)
    (h : WFB b) (en d T : α) (he : 0 < en) (hd : 0 < d) (hT : 0 < T) :
    ∃ v, 0 < v ∧ beam E cf wl true b en d T = Out.val v := by
  have hnpl : (beamNpl E cf wl true b en d).isSome := by
    rw [beamNpl_eq]
    split_ifs with ce cn cn
    · rfl
    · exact S.i1_extrap _ _ _ _ (valid1_sen_row S cf wl h (h.two_le_n cn)) (by decide)
    · exact S.i1_extrap _ _ _ _ (valid1_sen_col S cf wl h (h.two_le_e ce)) (by decide)
    · exact S.i2_extrap _ _ _ _ _ _ (valid2_sen S cf wl h (h.two_le_e ce) (h.two_le_n cn)) (by decide)
  obtain ⟨a, ha⟩ := Option.isSome_iff_exists.mp hnpl
  obtain ⟨c, hc⟩ := Option.isSome_iff_exists.mp
    (S.i1_extrap (kindOf Extrap.quadratic true) _ _ (E.loge T) (valid1_t S h) (by decide))
  exact ⟨_, S.pow_pos _, by rw [beam_of_pos (beamCtorOk_of_wf h) he hd hT, ha, hc]⟩


/-! ## beam CX

The factors `qti qni qz qb` are cubic-interpolated in linear space, so between knots of a steep (strictly positive)
table they can be negative: non-negativity of BeamCXPEC rests on *every* `if rate <= 0: return 0.0`.  `cxChainF` runs
the chain with the clamp flags the translator reads from the source; everything about `beamCX` is read off the chain. -/

/-- the nested transcription `beamCX` is the fully clamped chain applied to the interpolators' values -/
theorem beamCX_eq_chain (E : Ext α) (cf wl : α) (ex : Bool) (c : CXTable α) (en T d z bf : α) :
    beamCX E cf wl ex c en T d z bf =
      if en ≤ 0 then Out.val 0 else
      match interpOrConst E (kindOf Extrap.quadratic ex) (c.eb.map E.logc)
          (c.qeb.map fun y => E.logc (photonToJ cf y wl)) (E.loge en) with
      | none => Out.valueError
      | some l => cxChain (E.pow10 l)
          [interpOrConst E (kindOf Extrap.nearest ex) c.ti (c.qti.map fun y => y / c.qref) T,
           interpOrConst E (kindOf Extrap.nearest ex) c.ni (c.qni.map fun y => y / c.qref) d,
           interpOrConst E (kindOf Extrap.nearest ex) c.z (c.qz.map fun y => y / c.qref) z,
           interpOrConst E (kindOf Extrap.nearest ex) c.b (c.qb.map fun y => y / c.qref) bf] := by
  simp only [cxChain, List.map_cons, List.map_nil, cxChainF_cons_clamped]
  rfl

/-- **non-negativity of the chain** for any number of factors with any (also negative) values — *provided every
factor is clamped* -/
theorem cxChainF_nonneg (fs : List (Option α × Bool)) (hall : ∀ p ∈ fs, p.2 = true) (rate v : α) (hr : 0 < rate)
    (h : cxChainF rate fs = Out.val v) : 0 ≤ v := by
  induction fs generalizing rate with
  | nil => cases h; exact hr.le
  | cons p rest ih =>
    obtain ⟨f, cl⟩ := p
    obtain rfl : cl = true := hall _ List.mem_cons_self
    cases f with
    | none => cases h
    | some f =>
      simp only [cxChainF, true_and] at h
      split_ifs at h with hc
      · cases h; exact le_refl _
      · exact ih (fun p hp => hall p (List.mem_cons_of_mem _ hp)) (rate * f) (not_le.mp hc) h

theorem cxChain_nonneg {rate v : α} {fs : List (Option α)} (hr : 0 < rate) (h : cxChain rate fs = Out.val v) :
    0 ≤ v :=
  cxChainF_nonneg _ (List.forall_mem_map.mpr fun _ _ => rfl) rate v hr h

/-- … and it **depends on the final clamp**: drop it (`return rate * self._b.evaluate(b_field)`) and a negative last
factor — a cubic undershoot of a steep positive `qb` table — comes out as a negative rate -/
theorem cxChainF_negative_without_final_clamp (fs : List (Option α × Bool)) (rate f r : α)
    (h : cxChainF rate fs = Out.val r) (hr : 0 < r) (hf : f < 0) :
    ∃ v, v < 0 ∧ cxChainF rate (fs ++ [(some f, false)]) = Out.val v := by
  induction fs generalizing rate with
  | nil =>
    cases h
    exact ⟨r * f, mul_neg_of_pos_of_neg hr hf, rfl⟩
  | cons p rest ih =>
    obtain ⟨g, cl⟩ := p
    cases g with
    | none => cases h
    | some g =>
      simp only [cxChainF] at h
      simp only [List.cons_append, cxChainF]
      split_ifs at h with hc
      · cases h; exact absurd hr (lt_irrefl _)
      · rw [if_neg hc]; exact ih (rate * g) h

/-- **table reproduction** (beam CX): `qeb·hc/λ · qti/qref · qni/qref · qz/qref · qb/qref` at a grid point, whatever
mixture of interpolated and single-point axes -/
theorem beamCX_at_knot {E : Ext α} (S : ExtSpec E) (cf wl : α) (hcf : 0 < cf) (hwl : 0 < wl) (ex : Bool)
    (c : CXTable α) (h : WFC c) (i1 i2 i3 i4 i5 : Nat) (en T d z bf qe qt qn qz qb : α)
    (h1 : c.eb[i1]? = some en) (h2 : c.ti[i2]? = some T) (h3 : c.ni[i3]? = some d) (h4 : c.z[i4]? = some z)
    (h5 : c.b[i5]? = some bf) (g1 : c.qeb[i1]? = some qe) (g2 : c.qti[i2]? = some qt) (g3 : c.qni[i3]? = some qn)
    (g4 : c.qz[i4]? = some qz) (g5 : c.qb[i5]? = some qb) (hle : E.loge en = E.logc en) :
    beamCX E cf wl ex c en T d z bf =
      Out.val (photonToJ cf qe wl * (qt / c.qref) * (qn / c.qref) * (qz / c.qref) * (qb / c.qref)) := by
  have hl := interpOrConst_at_knot S (kindOf Extrap.quadratic ex) (fun y => E.logc (photonToJ cf y wl))
    (sorted_map_logc S h.eb) (by rw [List.length_map]; exact h.leb.1) (getElem?_map_of E.logc h1) g1
  have dp : ∀ {v : α}, 0 < v → 0 < v / c.qref := fun hv => div_pos hv h.qref
  rw [beamCX_eq_chain, if_neg (not_le.mpr (h.eb.pos_at h1)), hle, hl,
    interpOrConst_at_knot S _ _ h.ti h.lti.1 h2 g2, interpOrConst_at_knot S _ _ h.ni h.lni.1 h3 g3,
    interpOrConst_at_knot S _ _ h.z h.lz.1 h4 g4, interpOrConst_at_knot S _ _ h.b h.lb.1 h5 g5]
  have pj := photonToJ_pos hcf (h.pos.1 qe (List.mem_of_getElem? g1)) hwl
  dsimp only
  rw [S.pow_log _ pj]
  exact (cxChain_of_pos pj [_, _, _, _] (forall_mem_four
    (dp (h.pos.2.1 qt (List.mem_of_getElem? g2))) (dp (h.pos.2.2.1 qn (List.mem_of_getElem? g3)))
    (dp (h.pos.2.2.2.1 qz (List.mem_of_getElem? g4))) (dp (h.pos.2.2.2.2 qb (List.mem_of_getElem? g5))))).1


/-- … which is the documented `q_eb·q_ti·q_ni·q_z·q_b / q_ref⁴`, converted with hc/λ -/
theorem beamCX_documented_product (cf wl qe qt qn qz qb qref : α) (hq : qref ≠ 0) :
    photonToJ cf qe wl * (qt / qref) * (qn / qref) * (qz / qref) * (qb / qref) =
      photonToJ cf (qe * qt * qn * qz * qb / qref ^ 4) wl := by
  simp only [photonToJ]
  ring


theorem beamCX_zero_on_nonpositive_energy (E : Ext α) (cf wl : α) (ex : Bool) (c : CXTable α)
    (en T d z bf : α) (h : en ≤ 0) : beamCX E cf wl ex c en T d z bf = Out.val 0 := by
  rw [beamCX_eq_chain, if_pos h]


theorem beamCX_nonneg {E : Ext α} (S : ExtSpec E) (cf wl : α) (ex : Bool) (c : CXTable α) (en T d z bf v : α)
    (h : beamCX E cf wl ex c en T d z bf = Out.val v) : 0 ≤ v := by
  rw [beamCX_eq_chain] at h
  split_ifs at h
  · cases h; exact le_refl _
  · split at h
    · cases h
    · exact cxChain_nonneg (S.pow_pos _) h


/-- **why the complete guard is needed** (finding C07:BeamCXPEC:nonpositive-…-not-zero, fixed in 57a68d0): with
single-point temperature / density / Z_eff / B axes (`Constant1D`) the bare interpolation chain does not look at
those arguments at all, so for a non-positive temperature or density it returns the same *positive* number, not zero. -/
theorem beamCX_single_point_ignores_arguments {E : Ext α} (S : ExtSpec E) (cf wl : α) (hcf : 0 < cf) (hwl : 0 < wl)
    (ex : Bool) (c : CXTable α) (qe qt qn qz qb : α) (hqe : c.qeb = [qe]) (hqt : c.qti = [qt]) (hqn : c.qni = [qn])
    (hqz : c.qz = [qz]) (hqb : c.qb = [qb]) (p1 : 0 < qe) (p2 : 0 < qt) (p3 : 0 < qn) (p4 : 0 < qz) (p5 : 0 < qb)
    (hq : 0 < c.qref) (en : α) (hen : 0 < en) (T d z bf : α) :
    beamCX E cf wl ex c en T d z bf =
        Out.val (photonToJ cf qe wl * (qt / c.qref) * (qn / c.qref) * (qz / c.qref) * (qb / c.qref))
      ∧ 0 < photonToJ cf qe wl * (qt / c.qref) * (qn / c.qref) * (qz / c.qref) * (qb / c.qref) := by
  have dp : ∀ {v : α}, 0 < v → 0 < v / c.qref := fun hv => div_pos hv hq
  rw [beamCX_eq_chain, if_neg (not_le.mpr hen), interpOrConst_singleton E _ _ _ hqe, interpOrConst_singleton E _ _ _ hqt,
    interpOrConst_singleton E _ _ _ hqn, interpOrConst_singleton E _ _ _ hqz, interpOrConst_singleton E _ _ _ hqb]
  dsimp only
  rw [S.pow_log _ (photonToJ_pos hcf p1 hwl)]
  exact cxChain_of_pos (photonToJ_pos hcf p1 hwl) [_, _, _, _]
    (forall_mem_four (dp p2) (dp p3) (dp p4) (dp p5))


/-- the negation of "zero on a non-positive temperature" for the chain without the leading guard -/
theorem beamCX_not_zero_on_nonpositive_temperature {E : Ext α} (S : ExtSpec E) (cf wl : α) (hcf : 0 < cf)
    (hwl : 0 < wl) (ex : Bool) (c : CXTable α) (qe qt qn qz qb : α) (hqe : c.qeb = [qe]) (hqt : c.qti = [qt])
    (hqn : c.qni = [qn]) (hqz : c.qz = [qz]) (hqb : c.qb = [qb]) (p1 : 0 < qe) (p2 : 0 < qt) (p3 : 0 < qn)
    (p4 : 0 < qz) (p5 : 0 < qb) (hq : 0 < c.qref) (en : α) (hen : 0 < en) (T d z bf : α) (hT : T ≤ 0 ∨ d ≤ 0) :
    beamCX E cf wl ex c en T d z bf ≠ Out.val 0 := by
  obtain ⟨h1, h2⟩ := beamCX_single_point_ignores_arguments S cf wl hcf hwl ex c qe qt qn qz qb hqe hqt hqn hqz hqb
    p1 p2 p3 p4 p5 hq en hen T d z bf
  rw [h1]
  exact fun h => h2.ne (Out.val.inj h).symm


/-- a temperature outside an interpolated temperature axis, extrapolation not permitted: the bare chain raises — in
particular for a non-positive temperature (below every positive knot), where the property asks for zero -/
theorem beamCX_temperature_outside_raises {E : Ext α} (S : ExtSpec E) (cf wl : α) (c : CXTable α) (h : WFC c)
    (h2 : 2 ≤ c.ti.length) (en T d z bf l : α) (hen : 0 < en)
    (heb : interpOrConst E (kindOf Extrap.quadratic false) (c.eb.map E.logc)
      (c.qeb.map fun y => E.logc (photonToJ cf y wl)) (E.loge en) = some l)
    (hout : Below c.ti T ∨ Above c.ti T) :
    beamCX E cf wl false c en T d z bf = Out.valueError := by
  rw [beamCX_eq_chain, if_neg (not_le.mpr hen), heb,
    interpOrConst_outside S _ _ h.ti h.lti.1 h2 hout]
  rfl


/-- an interaction energy outside the tabulated range of an interpolated `qeb`, extrapolation not permitted: raises -/
theorem beamCX_energy_outside_raises {E : Ext α} (S : ExtSpec E) (cf wl : α) (c : CXTable α) (h : WFC c)
    (h2 : 2 ≤ c.eb.length) (en T d z bf : α) (hen : 0 < en)
    (hout : Below (c.eb.map E.logc) (E.loge en) ∨ Above (c.eb.map E.logc) (E.loge en)) :
    beamCX E cf wl false c en T d z bf = Out.valueError := by
  rw [beamCX_eq_chain, if_neg (not_le.mpr hen), interpOrConst_outside S _ _ (sorted_map_logc S h.eb)
    (by rw [List.length_map]; exact h.leb.1) (by rw [List.length_map]; exact h2) hout]

/-- **range policy, extrapolation permitted** (beam CX): never raises -/
theorem beamCX_extrapolated_returns {E : Ext α} (S : ExtSpec E) (cf wl : α) (c : CXTable α) (h : WFC c)
    (en T d z bf : α) : ∃ v, 0 ≤ v ∧ beamCX E cf wl true c en T d z bf = Out.val v := by
  have lin : ∀ {x q : List α} (p : α), Sorted x → q.length = x.length →
      (interpOrConst E (kindOf Extrap.nearest true) x (q.map fun y => y / c.qref) p).isSome :=
    interpOrConst_extrap S (by decide) _
  rw [beamCX_eq_chain]
  split_ifs
  · exact ⟨0, le_refl _, rfl⟩
  · obtain ⟨l, hl⟩ := Option.isSome_iff_exists.mp (interpOrConst_extrap S (k := kindOf Extrap.quadratic true)
      (by decide) (fun y => E.logc (photonToJ cf y wl)) (q := c.qeb) (E.loge en) (sorted_map_logc S h.eb)
      (by rw [List.length_map]; exact h.leb.1))
    rw [hl]
    obtain ⟨v, hv⟩ := cxChain_returns (E.pow10 l) _ (forall_mem_four (lin T h.ti h.lti.1)
      (lin d h.ni h.lni.1) (lin z h.z h.lz.1) (lin bf h.b h.lb.1))
    exact ⟨v, cxChain_nonneg (S.pow_pos l) hv, hv⟩


/-! ### BeamCXPEC as it is: the complete guard in front of the chain (`beamCXGuarded true`) -/

theorem beamCXGuarded_as_is (E : Ext α) (cf wl : α) (ex : Bool) (c : CXTable α) (en T d z bf : α) :
    beamCXGuarded false E cf wl ex c en T d z bf = beamCX E cf wl ex c en T d z bf := by
  simp [beamCXGuarded]

/-- **zero on a non-positive energy, temperature or density** (BeamCXPEC) -/
theorem beamCXGuarded_zero_on_nonpositive (E : Ext α) (cf wl : α) (ex : Bool) (c : CXTable α) (en T d z bf : α)
    (h : en ≤ 0 ∨ T ≤ 0 ∨ d ≤ 0) : beamCXGuarded true E cf wl ex c en T d z bf = Out.val 0 := by
  unfold beamCXGuarded
  rw [if_pos ⟨rfl, h⟩]

theorem beamCXGuarded_nonneg {E : Ext α} (S : ExtSpec E) (g : Bool) (cf wl : α) (ex : Bool) (c : CXTable α)
    (en T d z bf v : α) (h : beamCXGuarded g E cf wl ex c en T d z bf = Out.val v) : 0 ≤ v := by
  unfold beamCXGuarded at h
  split_ifs at h
  · cases h; exact le_refl _
  · exact beamCX_nonneg S cf wl ex c en T d z bf v h

/-- the guard does not disturb positive arguments: table reproduction etc. carry over verbatim -/
theorem beamCXGuarded_of_pos (g : Bool) (E : Ext α) (cf wl : α) (ex : Bool) (c : CXTable α) (en T d z bf : α)
    (hen : 0 < en) (hT : 0 < T) (hd : 0 < d) :
    beamCXGuarded g E cf wl ex c en T d z bf = beamCX E cf wl ex c en T d z bf :=
  if_neg fun h => not_or.mpr ⟨not_le.mpr hen, not_or.mpr ⟨not_le.mpr hT, not_le.mpr hd⟩⟩ h.2

/-- **table reproduction** (BeamCXPEC as it is) -/
theorem beamCXGuarded_at_knot {E : Ext α} (S : ExtSpec E) (g : Bool) (cf wl : α) (hcf : 0 < cf) (hwl : 0 < wl)
    (ex : Bool) (c : CXTable α) (h : WFC c) (hti : ∀ x ∈ c.ti, 0 < x) (hni : ∀ x ∈ c.ni, 0 < x)
    (i1 i2 i3 i4 i5 : Nat) (en T d z bf qe qt qn qz qb : α)
    (h1 : c.eb[i1]? = some en) (h2 : c.ti[i2]? = some T) (h3 : c.ni[i3]? = some d) (h4 : c.z[i4]? = some z)
    (h5 : c.b[i5]? = some bf) (g1 : c.qeb[i1]? = some qe) (g2 : c.qti[i2]? = some qt) (g3 : c.qni[i3]? = some qn)
    (g4 : c.qz[i4]? = some qz) (g5 : c.qb[i5]? = some qb) (hle : E.loge en = E.logc en) :
    beamCXGuarded g E cf wl ex c en T d z bf =
      Out.val (photonToJ cf (qe * qt * qn * qz * qb / c.qref ^ 4) wl) := by
  rw [beamCXGuarded_of_pos g E cf wl ex c en T d z bf (h.eb.pos_at h1)
    (hti T (List.mem_of_getElem? h2)) (hni d (List.mem_of_getElem? h3)),
    beamCX_at_knot S cf wl hcf hwl ex c h i1 i2 i3 i4 i5 en T d z bf qe qt qn qz qb h1 h2 h3 h4 h5 g1 g2 g3 g4 g5 hle,
    beamCX_documented_product cf wl qe qt qn qz qb c.qref h.qref.ne']

/-- **range policy** (BeamCXPEC as it is): with extrapolation permitted it never raises -/
theorem beamCXGuarded_extrapolated_returns {E : Ext α} (S : ExtSpec E) (g : Bool) (cf wl : α) (c : CXTable α)
    (h : WFC c) (en T d z bf : α) : ∃ v, 0 ≤ v ∧ beamCXGuarded g E cf wl true c en T d z bf = Out.val v := by
  unfold beamCXGuarded
  split_ifs
  · exact ⟨0, le_refl _, rfl⟩
  · exact beamCX_extrapolated_returns S cf wl c h en T d z bf

/-! ## accessor policy: general theorems about `Policy.run` for an *arbitrary* accessor descriptor

`Props/C07Table.lean` shows which of the generated descriptors are `Uniform`; these theorems say what uniformity buys
(the property's missing-data / isotope / wavelength clauses) and what each kind of deviation causes. -/

section policy

open Cherab.Rates.Policy


/-- **missing data**: a uniform accessor raises `RuntimeError`, or, if null rates were requested, returns its Null
rate (zero everywhere by `null_rate_zero` / `null_classes_zero`) -/
theorem missing_policy (sigs : List NullSig) (w : WavelengthPolicy) (a : Accessor) (c : Call)
    (hu : Uniform sigs a = true) (hmiss : c.stored.contains (keyOf a c) = false) :
    run sigs w a c = if c.nullRequested then Result.null a.nullInList else Result.raises "RuntimeError" := by
  obtain ⟨hr, hh, hc, hn, -⟩ := uniform_unpack hu
  unfold run
  simp only [hr, hh, hmiss, hc, hn, catches_runtimeError, Bool.not_true, Bool.or_self, Bool.false_eq_true, if_false,
    Bool.not_false, if_true]


/-- **isotopes are served from the element's rates**: every symbol in the repository key of a uniform accessor is the
*element* symbol of one of the species arguments -/
theorem uniform_reads_element (sigs : List NullSig) (a : Accessor) (c : Call) (hu : Uniform sigs a = true)
    (hc : ∀ sp ∈ c.species, sp.param ∈ a.species) :
    ∀ s ∈ keyOf a c, ∃ sp ∈ c.species, s = sp.elemSym := by
  obtain ⟨-, -, -, -, hraw, -⟩ := uniform_unpack hu
  intro s hs
  unfold keyOf at hs
  obtain ⟨x, hx, hsym⟩ := List.mem_filterMap.mp hs
  cases x with
  | raw p =>
    simp only [symOf, Option.map_eq_some_iff] at hsym
    obtain ⟨sp, hf, _⟩ := hsym
    obtain rfl : sp.param = p := by simpa using List.find?_some hf
    -- a raw argument is not a species parameter, yet the species found under its name is one
    have := List.all_eq_true.mp hraw _ hx
    simp [hc sp (List.mem_of_find?_eq_some hf)] at this
  | elem p =>
    simp only [symOf, Option.map_eq_some_iff] at hsym
    obtain ⟨sp, hf, hs'⟩ := hsym
    exact ⟨sp, List.mem_of_find?_eq_some hf, hs'.symm⟩
  | other o => simp [symOf] at hsym


/-- … and every species argument contributes (its element) to the key -/
theorem uniform_key_covers_species (sigs : List NullSig) (a : Accessor) (c : Call) (hu : Uniform sigs a = true)
    (sp : Sp) (hf : findSp c sp.param = some sp) (hp : sp.param ∈ a.species) : sp.elemSym ∈ keyOf a c := by
  obtain ⟨-, -, -, -, -, hel, -⟩ := uniform_unpack hu
  unfold keyOf
  exact List.mem_filterMap.mpr ⟨Src.elem sp.param, List.contains_iff_mem.mp (List.all_eq_true.mp hel _ hp),
    by simp [symOf, hf]⟩


/-- **wavelength of the requested species**: for a uniform accessor of a photon coefficient under the documented
`wavelength` method, the conversion uses the requested species' own wavelength when stored, the element's only for an
isotope with `wavelength_element_fallback`, and otherwise the call raises `RuntimeError` -/
theorem uniform_wavelength_requested (sigs : List NullSig) (w : WavelengthPolicy) (a : Accessor) (c : Call)
    (wc : WlCall) (p : String) (sp : Sp) (hu : Uniform sigs a = true) (hw : WlUniform w = true)
    (hwl : a.wl = some wc) (hsp : wc.species = Src.raw p) (hf : findSp c p = some sp)
    (hpres : c.stored.contains (keyOf a c) = true) :
    run sigs w a c =
      if c.wlStored.contains sp.sym then Result.rate (keyOf a c) (some sp.sym) a.rateInList
      else if sp.isIsotope && c.wlFallback && c.wlStored.contains sp.elemSym then
        Result.rate (keyOf a c) (some sp.elemSym) a.rateInList
      else Result.raises "RuntimeError" := by
  obtain ⟨hr, hh, -⟩ := uniform_unpack hu
  simp only [run, hr, hh, hpres, hwl, hsp, wavelengthLookup_raw hw c hf, Bool.not_true, Bool.or_self,
    Bool.false_eq_true, if_false]
  split_ifs <;> rfl


/-- a uniform accessor that converts photons asks for the wavelength of a species *as requested* -/
theorem uniform_wl_raw (sigs : List NullSig) (a : Accessor) (wc : WlCall) (hu : Uniform sigs a = true)
    (hwl : a.wl = some wc) : ∃ p, wc.species = Src.raw p ∧ a.species.contains p = true := by
  obtain ⟨-, -, -, -, -, -, hw, -⟩ := uniform_unpack hu
  simp only [hwl] at hw
  split at hw
  next p hs => exact ⟨p, hs, hw⟩
  next => cases hw


/-- deviation 1 (`recombination_pec` before 2bcf964): an `except` clause that does not catch `RuntimeError` lets the
repository's error through even when null rates were requested -/
theorem wrong_except_clause_defeats_null (sigs : List NullSig) (w : WavelengthPolicy) (a : Accessor) (c : Call)
    (hr : a.recognised = true) (hh : a.handlerStd = true) (hc : catchesRuntimeError a.caught = false)
    (hmiss : c.stored.contains (keyOf a c) = false) : run sigs w a c = Result.raises "RuntimeError" := by
  have hm : keyOf a c ∉ c.stored := by simpa using hmiss
  unfold run
  simp [hr, hh, hm, hc]


/-- deviation 2 (`beam_cx_pec` before 1187109): a Null constructor called with an argument list its class rejects turns a
null request into a `TypeError` -/
theorem bad_null_arity_raises_typeerror (sigs : List NullSig) (w : WavelengthPolicy) (a : Accessor) (c : Call)
    (hr : a.recognised = true) (hh : a.handlerStd = true) (hc : catchesRuntimeError a.caught = true)
    (hn : nullArity sigs a.nullClass a.nullArgs.length = false) (hnull : c.nullRequested = true)
    (hmiss : c.stored.contains (keyOf a c) = false) : run sigs w a c = Result.raises "TypeError" := by
  have hm : keyOf a c ∉ c.stored := by simpa using hmiss
  unfold run
  simp [hr, hh, hm, hc, hn, hnull]


/-- deviation 3 (`thermal_cx_pec` before 1ec8bb9): when the wavelength is requested for the *element* of an argument, an
isotope's own stored wavelength is never used — the element's is, or the call raises although the isotope's exists -/
theorem element_wavelength_ignores_isotope (sigs : List NullSig) (w : WavelengthPolicy) (a : Accessor) (c : Call)
    (wc : WlCall) (p : String) (sp : Sp) (hr : a.recognised = true) (hh : a.handlerStd = true)
    (wr : w.recognised = true) (wp : w.plainUsesRaw = true) (hwl : a.wl = some wc) (hsp : wc.species = Src.elem p)
    (hf : findSp c p = some sp) (hpres : c.stored.contains (keyOf a c) = true) :
    run sigs w a c = if c.wlStored.contains sp.elemSym then Result.rate (keyOf a c) (some sp.elemSym) a.rateInList
      else Result.raises "RuntimeError" := by
  unfold run
  simp only [hr, hh, hpres, hwl, Bool.not_true, Bool.or_self, Bool.false_eq_true, if_false]
  unfold wavelengthLookup
  simp only [wr, wp, hsp, hf, Bool.not_true, Bool.or_self, Bool.false_eq_true, if_false]
  by_cases h : sp.elemSym ∈ c.wlStored <;> simp [h]


end policy


/-! ## Non-vacuity: the hypotheses are satisfiable

`ExtSpec` is realised over ℝ by `10 ^ x`, `Real.logb 10` and a "look the knot up" interpolant (value at a knot, 0
elsewhere, `none` outside the knot range iff the extrapolation type is 'none').  The theorems above are then applied
to concrete tables. -/

section nonvacuity

open Classical


def exTable : Table2 ℝ := ⟨[1, 10], [2, 20], [[3, 4], [5, 6]]⟩


theorem exTable_wf : WF2 exTable :=
  ⟨axis_pair one_pos (by norm_num), axis_pair two_pos (by norm_num), rfl, by decide, by simp [exTable]⟩


/-- table reproduction on the concrete table: grid point (10, 2) ↦ stored value 5 (no photon conversion) … -/
example : grid2 (realExt 0) 1 none Extrap.nearest false exTable 10 2 = Out.val 5 :=
  grid2_at_knot_raw (realExt_spec 0) realExt_logAgree 1 none one_pos (by simp) Extrap.nearest false exTable exTable_wf
    le_rfl le_rfl 1 0 10 2 5 [5, 6] rfl rfl rfl rfl


/-- … and with the photon conversion `x · cf / λ` -/
example : grid2 (realExt 0) 3 (some 2) Extrap.nearest true exTable 1 20 = Out.val (4 * 3 / 2) := by
  rw [← conv_photon]
  exact grid2_at_knot_raw (realExt_spec 0) realExt_logAgree 3 (some 2) (by norm_num) (by simp) Extrap.nearest true exTable
    exTable_wf le_rfl le_rfl 0 1 1 20 4 [3, 4] rfl rfl rfl rfl


/-- the float gap hypothesis is satisfiable: with `evaluate`'s log10 one unit below the constructor's, the first
grid point raises although the contract of every external function holds -/
example : grid2 (realExt 1) 1 none Extrap.nearest false exTable 1 2 = Out.valueError :=
  grid2_edge_knot_raises (realExt_spec 1) 1 none Extrap.nearest exTable exTable_wf le_rfl
    le_rfl 1 2 (by norm_num) rfl (by simp [realExt])


/-- below the range without extrapolation: raises; with: returns -/
example : grid2 (realExt 0) 1 none Extrap.linear false exTable (1 / 2) 2 = Out.valueError :=
  grid2_below_density_range_raises (realExt_spec 0) realExt_logAgree 1 none Extrap.linear exTable exTable_wf
    le_rfl le_rfl (1 / 2) 2 1 (by norm_num) (by norm_num) rfl (by norm_num)


example : ∃ v, 0 < v ∧ grid2 (realExt 0) 1 none Extrap.linear true exTable (1 / 2) 2 = Out.val v :=
  grid2_extrapolated_returns (realExt_spec 0) 1 none Extrap.linear (by decide) exTable exTable_wf le_rfl
    le_rfl (1 / 2) 2 (by norm_num) (by norm_num)


/-- beam coefficient with a single-point energy axis (the `IsoMapper2D(Arg2D('y'), Interpolator1DArray)` branch):
`sen · st / sref` at the grid point (5, 10, 20) -/
def exBeam : BeamTable ℝ := ⟨[5], [1, 10], [2, 20], [[3, 4]], [6, 8], 2⟩


theorem exBeam_wf : WFB exBeam :=
  ⟨⟨List.pairwise_singleton _ _, by simp [exBeam]⟩, axis_pair one_pos (by norm_num), axis_pair two_pos (by norm_num),
    by decide, by decide, by decide, rfl, by decide, rfl, by simp [exBeam], by simp [exBeam], two_pos⟩


example : beam (realExt 0) 1 none false exBeam 5 10 20 = Out.val (4 * 8 / 2) :=
  beam_at_knot (realExt_spec 0) 1 none one_pos (by simp) false exBeam exBeam_wf 0 1 1 5 10 20 4 8 [3, 4]
    rfl rfl rfl rfl rfl rfl (by simp [realExt]) (by simp [realExt]) (by simp [realExt])


/-- beam CX with single-point axes: a non-positive temperature and density do *not* give zero -/
def exCX : CXTable ℝ := ⟨[1], [1], [1], [1], [1], [2], [3], [5], [7], [11], 1⟩


example : beamCX (realExt 0) 1 1 true exCX 1 (-1) 0 1 1 ≠ Out.val 0 :=
  beamCX_not_zero_on_nonpositive_temperature (realExt_spec 0) 1 1 one_pos one_pos true exCX 2 3 5 7 11 rfl rfl rfl rfl
    rfl (by norm_num) (by norm_num) (by norm_num) (by norm_num) (by norm_num) (by simp [exCX]) 1 one_pos (-1) 0 1 1
    (Or.inl (by norm_num))


end nonvacuity



/-- a single-point component is a `Constant1D`: the same value at every abscissa, for every extrapolation setting -/
theorem interpOrConst_single_point (E : Ext α) (k k' : Extrap) (x q : List α) (hq : q.length = 1) (p p' : α) :
    interpOrConst E k x q p = interpOrConst E k' x q p' ∧ (interpOrConst E k x q p).isSome := by
  rw [interpOrConst_single E k x hq, interpOrConst_single E k' x hq]
  exact ⟨rfl, rfl⟩

/-- hence the whole beam coefficient: along a single-point energy axis every positive energy gives the same result
(value or raise), with either extrapolation setting — there is no range policy along such an axis -/
theorem beam_single_energy_axis_no_range (E : Ext α) (cf : α) (wl : Option α) (ex : Bool) (b : BeamTable α)
    (he : b.e.length = 1) (en en' d T : α) (h : 0 < en) (h' : 0 < en') :
    beam E cf wl ex b en d T = beam E cf wl ex b en' d T := by
  simp only [beam, beamNpl_single_energy_axis E cf wl ex b he en en' d, not_le.mpr h, not_le.mpr h', false_or]

theorem beam_single_density_axis_no_range (E : Ext α) (cf : α) (wl : Option α) (ex : Bool) (b : BeamTable α)
    (hn : b.n.length = 1) (en d d' T : α) (h : 0 < d) (h' : 0 < d') :
    beam E cf wl ex b en d T = beam E cf wl ex b en d' T := by
  simp only [beam, beamNpl_single_density_axis E cf wl ex b hn en d d', not_le.mpr h, not_le.mpr h', false_or]

/-- BeamCXPEC, per linear axis: a single-point `qti` (resp. `qni`, `qz`, `qb`) makes the rate independent of the
temperature (resp. density, Z_eff, B) — for positive temperatures / densities, which the leading guard lets through -/
theorem beamCX_single_temperature_axis_no_range (E : Ext α) (cf wl : α) (ex : Bool) (c : CXTable α)
    (h1 : c.qti.length = 1) (en T T' d z bf : α) :
    beamCX E cf wl ex c en T d z bf = beamCX E cf wl ex c en T' d z bf := by
  rw [beamCX_eq_chain, beamCX_eq_chain,
    (interpOrConst_single_point E _ _ c.ti _ (by rw [List.length_map]; exact h1) T T').1]

theorem beamCX_single_density_axis_no_range (E : Ext α) (cf wl : α) (ex : Bool) (c : CXTable α)
    (h1 : c.qni.length = 1) (en T d d' z bf : α) :
    beamCX E cf wl ex c en T d z bf = beamCX E cf wl ex c en T d' z bf := by
  rw [beamCX_eq_chain, beamCX_eq_chain,
    (interpOrConst_single_point E _ _ c.ni _ (by rw [List.length_map]; exact h1) d d').1]

theorem beamCX_single_zeff_axis_no_range (E : Ext α) (cf wl : α) (ex : Bool) (c : CXTable α)
    (h1 : c.qz.length = 1) (en T d z z' bf : α) :
    beamCX E cf wl ex c en T d z bf = beamCX E cf wl ex c en T d z' bf := by
  rw [beamCX_eq_chain, beamCX_eq_chain,
    (interpOrConst_single_point E _ _ c.z _ (by rw [List.length_map]; exact h1) z z').1]

theorem beamCX_single_bfield_axis_no_range (E : Ext α) (cf wl : α) (ex : Bool) (c : CXTable α)
    (h1 : c.qb.length = 1) (en T d z bf bf' : α) :
    beamCX E cf wl ex c en T d z bf = beamCX E cf wl ex c en T d z bf' := by
  rw [beamCX_eq_chain, beamCX_eq_chain,
    (interpOrConst_single_point E _ _ c.b _ (by rw [List.length_map]; exact h1) bf bf').1]

/-- non-vacuity: the single-energy beam table of the examples above -/
example : beam (realExt 0) 1 none false exBeam 5 10 20 = beam (realExt 0) 1 none false exBeam 7000 10 20 :=
  beam_single_energy_axis_no_range (realExt 0) 1 none false exBeam rfl 5 7000 10 20 (by norm_num) (by norm_num)

example : beamCX (realExt 0) 1 1 false exCX 1 3 1 1 1 = beamCX (realExt 0) 1 1 false exCX 1 900 1 1 1 :=
  beamCX_single_temperature_axis_no_range (realExt 0) 1 1 false exCX rfl 1 3 900 1 1 1


section memo
open Cherab.Rates.Memo
variable {ρ κ σ : Type} [DecidableEq κ]

/-- invariant of the memo: every remembered answer is the function's answer for some request with that key -/
def MemoOk (key : ρ → κ) (f : ρ → σ) (memo : List (κ × σ)) : Prop := ∀ e ∈ memo, ∃ r, key r = e.1 ∧ e.2 = f r

theorem memo_step_spec (key : ρ → κ) (f : ρ → σ) (hk : ∀ r r', key r = key r' → f r = f r') (memo : List (κ × σ))
    (hm : MemoOk key f memo) (r : ρ) : (step key f memo r).2 = f r ∧ MemoOk key f (step key f memo r).1 := by
  unfold step
  cases hfind : memo.find? (fun e => e.1 = key r) with
  | some e =>
    have hmem := List.mem_of_find?_eq_some hfind
    have hkey : e.1 = key r := by simpa using List.find?_some hfind
    obtain ⟨r', hr', hv⟩ := hm e hmem
    exact ⟨hv.trans (hk r' r (hr'.trans hkey)), hm⟩
  | none => exact ⟨rfl, List.forall_mem_cons.mpr ⟨⟨r, rfl, rfl⟩, hm⟩⟩

/-- **statelessness, sufficiency**: when the key determines the answer, the memoising provider answers *every* history
of requests exactly like the stateless function (the answer to a request is independent of all earlier requests) -/
theorem memo_transparent (key : ρ → κ) (f : ρ → σ) (hk : ∀ r r', key r = key r' → f r = f r') (memo : List (κ × σ))
    (hm : MemoOk key f memo) (hist : List ρ) : answers key f memo hist = hist.map f := by
  induction hist generalizing memo with
  | nil => rfl
  | cons r rest ih =>
    obtain ⟨h1, h2⟩ := memo_step_spec key f hk memo hm r
    simp only [answers, List.map_cons, h1, ih _ h2]

/-- **necessity**: two requests with the same key and different answers, asked in a row, make the provider give the
first one's answer to the second (a wavelength cache keyed by the element: `wavelength_memo_by_element_unsound`) -/
theorem memo_coarse_key_witness (key : ρ → κ) (f : ρ → σ) (r r' : ρ) (hkey : key r = key r') :
    answers key f [] [r, r'] = [f r, f r] := by
  simp [answers, step, hkey]

/-- the two together: transparency for all histories ⇔ the key determines the answer -/
theorem memo_transparent_iff (key : ρ → κ) (f : ρ → σ) :
    (∀ hist, answers key f [] hist = hist.map f) ↔ (∀ r r', key r = key r' → f r = f r') := by
  constructor
  · intro h r r' hkey
    have h1 := h [r, r']
    rw [memo_coarse_key_witness key f r r' hkey] at h1
    simpa using h1
  · intro hk hist
    exact memo_transparent key f hk [] (fun _ he => nomatch he) hist

/-- non-vacuity: a memo keyed by the request itself is transparent … -/
example : answers (fun n : Nat => n) (fun n => n * n) [] [3, 4, 3] = [9, 16, 9] :=
  memo_transparent _ _ (fun _ _ h => by rw [h]) [] (fun _ he => nomatch he) _

/-- … one keyed too coarsely (parity) is not -/
example : answers (fun n : Nat => n % 2) (fun n => n * n) [] [3, 5] = [9, 9] :=
  memo_coarse_key_witness _ _ 3 5 rfl

end memo


inductive Tab (α : Type)
  | g2 (t : Table2 α)
  | g3 (t : Table3 α)
  | bm (b : BeamTable α)
  | cx (c : CXTable α)

/-- the constructor succeeds (otherwise the accessor raises and no rate object exists) -/
def Tab.ctorOk : Tab α → Prop
  | Tab.g2 t => 2 ≤ t.ne.length ∧ 2 ≤ t.te.length
  | Tab.g3 t => 2 ≤ t.ne.length ∧ 2 ≤ t.te.length ∧ 2 ≤ t.td.length
  | Tab.bm b => beamCtorOk b = true
  | Tab.cx _ => True

/-- number of leading `evaluate` parameters that are a density, a temperature or an energy
(`guard_positions_table` in `Props/C07Table.lean` ties this to the parameter names of the generated table) -/
def Tab.dteCount : Tab α → Nat
  | Tab.g2 _ => 2
  | Tab.g3 _ => 3
  | Tab.bm _ => 3
  | Tab.cx _ => 3

/-- `RateClass(table, …)(args…)` for any class (`none` = wrong number of arguments) -/
def evalClass (E : Ext α) (cf : α) (wl : Option α) (onExtrap : Extrap) (ex : Bool) (tab : Tab α) (args : List α) :
    Option (Out α) :=
  match tab with
  | Tab.g2 t => match args with
    | [d, T] => some (grid2 E cf wl onExtrap ex t d T)
    | _ => none
  | Tab.g3 t => match args with
    | [d, T, D] => some (grid3 E cf (wl.getD 1) ex t d T D)
    | _ => none
  | Tab.bm b => match args with
    | [en, d, T] => some (beam E cf wl ex b en d T)
    | _ => none
  | Tab.cx c => match args with
    | [en, T, d, z, bf] => some (beamCXGuarded true E cf (wl.getD 1) ex c en T d z bf)
    | _ => none

/-- **the zero guard wins** — for every class, every density / temperature / energy position, *whatever the other
arguments are* (inside, outside the table, on a knot, non-positive themselves), whatever the extrapolation setting, the
wavelength, and whatever the external functions do (no hypothesis on `E`: also when an interpolator would raise) -/
theorem zero_guard_wins (E : Ext α) (cf : α) (wl : Option α) (k : Extrap) (ex : Bool) (tab : Tab α) (args : List α)
    (hc : tab.ctorOk) (i : Nat) (x : α) (hi : i < tab.dteCount) (hx : args[i]? = some x) (hneg : x ≤ 0) (out : Out α)
    (hout : evalClass E cf wl k ex tab args = some out) : out = Out.val 0 := by
  -- `x` is one of the leading arguments, and each class's guard lists exactly those
  have hm : x ∈ args.take tab.dteCount := List.mem_of_getElem? ((List.getElem?_take_of_lt hi).trans hx)
  cases tab with
  | g2 t =>
    simp only [evalClass] at hout
    split at hout
    · cases hout
      apply grid2_zero_on_nonpositive E cf wl k ex t hc.1 hc.2
      rcases List.mem_pair.mp hm with rfl | rfl
      exacts [Or.inl hneg, Or.inr hneg]
    · cases hout
  | g3 t =>
    simp only [evalClass] at hout
    split at hout
    · cases hout
      exact grid3_zero_on_nonpositive E cf _ ex t hc.1 hc.2.1 hc.2.2 _ _ _ (nonpos_of_mem_triple hm hneg)
    · cases hout
  | bm b =>
    simp only [evalClass] at hout
    split at hout
    · cases hout
      exact beam_zero_on_nonpositive E cf wl ex b hc _ _ _ (nonpos_of_mem_triple hm hneg)
    · cases hout
  | cx c =>
    simp only [evalClass] at hout
    split at hout
    · cases hout
      exact beamCXGuarded_zero_on_nonpositive E cf _ ex c _ _ _ _ _ (nonpos_of_mem_triple hm hneg)
    · cases hout

/-- the rest of the decision table for the 2-D classes in one statement: with positive arguments, outside the table
raises iff extrapolation is off, otherwise a positive value comes back -/
theorem grid2_decision_table {E : Ext α} (S : ExtSpec E) (cf : α) (wl : Option α) (k : Extrap) (hk : k ≠ Extrap.none)
    (ex : Bool) (t : Table2 α) (h : WF2 t) (h1 : 2 ≤ t.ne.length) (h2 : 2 ≤ t.te.length) (d T : α) :
    ((d ≤ 0 ∨ T ≤ 0) → grid2 E cf wl k ex t d T = Out.val 0) ∧
    (0 < d → 0 < T → ex = false →
      (Below (t.ne.map E.logc) (E.loge d) ∨ Above (t.ne.map E.logc) (E.loge d) ∨
        Below (t.te.map E.logc) (E.loge T) ∨ Above (t.te.map E.logc) (E.loge T)) →
      grid2 E cf wl k ex t d T = Out.valueError) ∧
    (0 < d → 0 < T → (ex = true ∨ (Within (t.ne.map E.logc) (E.loge d) ∧ Within (t.te.map E.logc) (E.loge T))) →
      ∃ v, 0 < v ∧ grid2 E cf wl k ex t d T = Out.val v) := by
  refine ⟨grid2_zero_on_nonpositive E cf wl k ex t h1 h2 d T, ?_, ?_⟩
  · intro hd hT hex hout
    subst hex
    exact grid2_outside_raises S cf wl k t h h1 h2 d T hd hT hout
  · intro hd hT hcase
    rcases hcase with hex | ⟨w1, w2⟩
    · subst hex
      exact grid2_extrapolated_returns S cf wl k hk t h h1 h2 d T hd hT
    · exact grid2_within_returns S cf wl k ex t h h1 h2 d T hd hT w1 w2

/-- non-vacuity: a zero temperature beats an out-of-range density on the concrete table, extrapolation off -/
example : grid2 (realExt 0) 1 none Extrap.nearest false exTable (1 / 1000) 0 = Out.val 0 :=
  zero_guard_wins (realExt 0) 1 none Extrap.nearest false (Tab.g2 exTable) [1 / 1000, 0]
    ⟨le_rfl, le_rfl⟩ 1 0 (by decide) rfl (le_refl _) _ rfl

end Cherab.Props.C07
