import Cherab.Model.Subscription
import Cherab.Gen.SetterEvents

/-!
C01 — subscriptions follow the installed object.

`SubInv`: after any history of assignments through a setter whose body has a canonical order, the callback is registered
with the notifier of exactly the object the attribute holds — so a change of that object reaches the owner (no stale
state) and a change of a previously installed object does not.  This covers re-assignment of the object already
installed (`x.attenuator = x.attenuator`), and moving between objects (two plasmas in one world).
The order "add to the new object, remove from the old one, assign" (a seeded defect) breaks the invariant exactly when
the object installed is the one already held; the witness is proved.
The generated table `Gen.setterEvents` (one row per setter of the .pyx sources, statements in source order) is decided
canonical by the kernel on every run.
-/
namespace Cherab.Props.C01
open Cherab.Subscription

theorem erase_singleton (q : Nat) : [q].erase q = [] := by simp

theorem addN_nil (p : Nat) : addN [] p = [p] := by simp [addN]

theorem addN_self (p : Nat) : addN [p] p = [p] := by simp [addN]

/-- on entry `.attr` and `.old` both name the object held -/
theorem ev_remove_held (p : Nat) (cur : Option Nat) :
    ev p cur ⟨cur, cur.toList⟩ (.remove .attr) = ⟨cur, []⟩ ∧ ev p cur ⟨cur, cur.toList⟩ (.remove .old) = ⟨cur, []⟩ := by
  cases cur
  · exact ⟨rfl, rfl⟩
  · simp only [ev, target, Option.toList, erase_singleton, and_self]

/-- all six orders begin with a removal that `ev_remove_held` evaluates; the two events that follow install `p` and
subscribe to it -/
theorem setter_canonical (evs : List Ev) (h : canonical evs = true) (cur : Option Nat) (p : Nat) :
    setter evs ⟨cur, cur.toList⟩ p = ⟨some p, [p]⟩ := by
  simp only [canonical, Bool.or_eq_true, beq_iff_eq] at h
  obtain ⟨hattr, hold⟩ := ev_remove_held p cur
  rcases h with ((((rfl | rfl) | rfl) | rfl) | rfl) | rfl <;>
    simp only [setter, List.foldl, hattr, hold] <;> simp only [ev, target, addN_nil]

/-- one call through a canonical setter keeps the invariant (whatever was installed before, including `p` itself) -/
theorem setter_inv (evs : List Ev) (h : canonical evs = true) (s : St) (p : Nat) (hs : SubInv s) :
    SubInv (setter evs s p) ∧ (setter evs s p).cur = some p := by
  obtain ⟨cur, subs⟩ := s
  obtain rfl : subs = cur.toList := hs
  rw [setter_canonical evs h]
  exact ⟨rfl, rfl⟩

/-- after any sequence of assignments the callback is registered with exactly the installed object -/
theorem run_inv (evs : List Ev) (h : canonical evs = true) (ps : List Nat) (s : St) (hs : SubInv s) :
    SubInv (run evs s ps) := by
  induction ps generalizing s with
  | nil => exact hs
  | cons p ps ih => exact ih _ (setter_inv evs h s p hs).1

/-- … and it is the last object assigned -/
theorem run_cur (evs : List Ev) (h : canonical evs = true) (ps : List Nat) (p : Nat) (s : St) (hs : SubInv s) :
    (run evs s (ps ++ [p])).subs = [p] := by
  have h1 := setter_inv evs h _ p (run_inv evs h ps s hs)
  rw [run, List.foldl_append]
  exact h1.1.trans (congrArg Option.toList h1.2)

/-- the seeded slip: register with the new object first, then unregister from the old one.  Re-assigning the object
already installed drops the only registration. -/
theorem add_then_remove_breaks :
    ∃ s p, SubInv s ∧ ¬ SubInv (setter [.add .value, .remove .attr, .assign] s p) :=
  ⟨{ cur := some 7, subs := [7] }, 7, rfl, by decide⟩

/-- … while it is harmless when a different object is installed (why ordinary use never notices) -/
theorem add_then_remove_ok_if_distinct (s : St) (p : Nat) (hs : SubInv s) (hd : s.cur ≠ some p) :
    SubInv (setter [.add .value, .remove .attr, .assign] s p) := by
  obtain ⟨cur, subs⟩ := s
  obtain rfl : subs = cur.toList := hs
  cases cur with
  | none => simp only [setter, List.foldl, ev, target, Option.toList, addN_nil]; rfl
  | some q =>
    have hpq : ¬ p = q := fun h => hd (h ▸ rfl)
    simp [setter, ev, target, SubInv, addN, hpq]

/-- the same slip written with a local alias (`previous = self._x; self._x = value; add; previous.remove`), as seeded -/
theorem add_then_remove_old_breaks :
    ∃ s p, SubInv s ∧ ¬ SubInv (setter [.assign, .add .attr, .remove .old] s p) :=
  ⟨{ cur := some 7, subs := [7] }, 7, rfl, by decide⟩

/-- never unregistering (subscribe only on first assignment) leaves the owner deaf to the object it moved to -/
theorem add_if_none_breaks :
    ∃ ps, ¬ SubInv (run [.assign] (setter [.assign, .add .attr] init 1) ps) :=
  ⟨[2], by decide⟩

/-- the generated table: every subscribing setter of the sources has a canonical order -/
theorem all_setters_canonical : (Cherab.Gen.setterEvents.all fun r => canonical r.2) = true := by decide

theorem no_setter_problems : Cherab.Gen.setterProblems = [] := by decide

theorem setter_table_nonempty : 0 < Cherab.Gen.setterEvents.length := by decide

/-- for every setter in the generated table and every history of assignments from a fresh owner, the invariant holds -/
theorem no_stale_subscription (r : String × List Ev) (hr : r ∈ Cherab.Gen.setterEvents) (ps : List Nat) :
    SubInv (run r.2 init ps) :=
  run_inv r.2 (List.all_eq_true.mp all_setters_canonical r hr) ps init rfl

example : SubInv (run [.remove .attr, .assign, .add .attr] init [3, 3, 5, 3]) := by decide

end Cherab.Props.C01
