import Cherab.Props.C18
import Cherab.Gen.LaserEdges
namespace Cherab.Props.C18Table
open Cherab.Laser Cherab.Props.C18 Cherab.Gen.LaserEdges

/-- every setter validates before it writes, and a field that the rebuilt inner function requires to be positive is
only written after a positivity check — so a rejected assignment cannot leave the reported parameter changed while
the energy density still belongs to the old one -/
theorem rejected_assignments_atomic : classes.all atomicB = true := by decide +kernel

end Cherab.Props.C18Table
