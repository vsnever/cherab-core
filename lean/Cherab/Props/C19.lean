import Cherab.Gen.Elements
import Cherab.Lemmas.RegistryStr

/-!
# C19 — the element and isotope registry is unambiguous and self-consistent

Objects: `Gen.Elements.elements / isotopes` — the *complete* table of `Element` / `Isotope`
objects exported by `cherab/core/atomic/elements.pyx`, regenerated from the source on every run, with the
constructors, index key expressions and `__richcmp__/__hash__` field lists generated from the same source.

Table facts are Boolean checks evaluated by the kernel (`decide +kernel`, pure `Nat` arithmetic) and lifted to the
readable statements by the general lemmas of `Lemmas/Registry.lean` and `Lemmas/RegistryStr.lean`; statements that do not mention the table hold
for every table / every object (`index_roundtrip_iff_collision_free`, `lookup_returns_last_owner`, `*_eq_hash`,
`*_ne_is_not_eq`, `isotope_ctor_atomic_number`, `code_injective`).

"Any letter case" is expressed as: the spelling `s` has the same lower-case form as the identifier
(`lower s = lower id`), which is what `str(v).lower()` makes of it.
-/
namespace Cherab.Props.C19
open Cherab.Registry Cherab.Gen.Elements

/-- every exported species object, elements first -/
def allSpecies : List Sp := elements.map Sp.el ++ isotopes.map Sp.iso

/-! ## the generated codes are the codes of the readable strings -/

/-- the numeric name / symbol codes in the generated table are `enc` of the spellings listed next to them -/
theorem codes_ok :
    elements.map (fun e => (e.name, e.sym)) = elementStrings.map (fun p => (enc p.1, enc p.2)) ∧
    isotopes.map (fun i => (i.base.name, i.base.sym)) = isotopeStrings.map (fun p => (enc p.1, enc p.2)) := by
  decide +kernel

/-- different NUL-free byte strings have different codes (so uniqueness of codes is uniqueness of strings) -/
theorem code_injective (xs ys : List Nat) (hx : ∀ b ∈ xs, 0 < b ∧ b < 256) (hy : ∀ b ∈ ys, 0 < b ∧ b < 256)
    (h : encBytes xs = encBytes ys) : xs = ys := encBytes_injective xs ys hx hy h

/-! ## index construction: general facts (any table) -/

/-- a lookup in a built index returns the last object, in `dir()` order, that owns the key (later entries overwrite) -/
theorem lookup_returns_last_owner {α : Type} (keys : α → List Nat) (objs : List α) (k : Nat) :
    Index.get? (buildIndex keys objs) k = objs.reverse.find? fun o => decide (k ∈ keys o) :=
  get?_buildIndex keys objs k

/-- for every table: each object is found under each of its keys **iff** no key is owned by two objects -/
theorem index_roundtrip_iff_collision_free {α : Type} (keys : α → List Nat) (objs : List α) :
    RoundTrip keys objs ↔ CollisionFree keys objs := roundTrip_iff_collisionFree keys objs

/-! ## the generated table: every index key leads back to its owner

The kernel evaluates, for every indexed object, the keys the builder assigns (with the model's `lower`, `cat`,
`strNat`) and looks them up in the translator's search-tree certificate (keys evaluated there with Python's own string
functions): linear·log.  That certifies collision-freeness; round trip through the *modelled* index (`buildIndex`, last
writer wins) then follows from the general equivalence. -/

theorem mem_elementKeys {e : El} {k : Nat} :
    k ∈ elementKeys e ↔ k = lower e.sym ∨ k = lower e.name ∨ k = strNat e.z := by
  simp [elementKeys]

theorem mem_isotopeKeys {i : Iso} {k : Nat} :
    k ∈ isotopeKeys i ↔ k = lower i.base.sym ∨ k = lower i.base.name ∨
      k = cat (lower i.parent.sym) (strNat i.a) ∨ k = cat (lower i.parent.name) (strNat i.a) := by
  simp [isotopeKeys]

def chkElementKeys : Bool :=
  indexedElements.all fun e => (elementKeys e).all fun k => optElIs (elementKeyTree.find k) e

/-- An isotope spelled after its element has only two distinct keys (`Iso.lower_of_spelledAfterElement`): its own symbol
and name are lower-cased and looked up only when that cheap comparison fails (the hydrogen names). -/
def chkIsotopeKeys : Bool :=
  indexedIsotopes.all fun i =>
    let found := fun k => optIsoIs (isotopeKeyTree.find k) i
    found (cat (lower i.parent.sym) (strNat i.a)) && found (cat (lower i.parent.name) (strNat i.a)) &&
    (i.spelledAfterElement || (found (lower i.base.sym) && found (lower i.base.name)))

theorem chk_element_keys : chkElementKeys = true := by decide +kernel
theorem chk_isotope_keys : chkIsotopeKeys = true := by decide +kernel

/-- no two elements share an index key (lower-case symbol, lower-case name, decimal atomic number) -/
theorem element_index_collision_free : CollisionFree elementKeys indexedElements := by
  refine collisionFree_of_oracle elementKeyTree.find fun e he k hk => ?_
  have h := chk_element_keys
  simp only [chkElementKeys, List.all_eq_true] at h
  exact optElIs_iff.mp (h e he k hk)

/-- no two isotopes share an index key (symbol, name, element symbol + A, element name + A; lower case) -/
theorem isotope_index_collision_free : CollisionFree isotopeKeys indexedIsotopes := by
  refine collisionFree_of_oracle isotopeKeyTree.find fun i hi k hk => ?_
  have h := chk_isotope_keys
  simp only [chkIsotopeKeys, List.all_eq_true, Bool.and_eq_true, Bool.or_eq_true, optIsoIs_iff] at h
  obtain ⟨⟨h3, h4⟩, h12⟩ := h i hi
  have h12 : isotopeKeyTree.find (lower i.base.sym) = some i ∧ isotopeKeyTree.find (lower i.base.name) = some i := by
    rcases h12 with hx | h12
    · obtain ⟨hs, hn⟩ := Iso.lower_of_spelledAfterElement hx
      rw [hs, hn]
      exact ⟨h3, h4⟩
    · exact h12
  rcases mem_isotopeKeys.mp hk with rfl | rfl | rfl | rfl
  exacts [h12.1, h12.2, h3, h4]

/-- every indexed element is found in `_element_index` under each of its keys -/
theorem element_index_roundtrip : RoundTrip elementKeys indexedElements :=
  (roundTrip_iff_collisionFree _ _).mpr element_index_collision_free

/-- every indexed isotope is found in `_isotope_index` under each of its keys -/
theorem isotope_index_roundtrip : RoundTrip isotopeKeys indexedIsotopes :=
  (roundTrip_iff_collisionFree _ _).mpr isotope_index_collision_free

/-- every exported object was bound when its index was built (nothing is defined after the `_build_*_index()` call) -/
def chkIndexed : Bool := subseqB El.beq elements indexedElements && subseqB Iso.beq isotopes indexedIsotopes
theorem chk_indexed : chkIndexed = true := by decide +kernel

theorem all_exported_indexed :
    (∀ e ∈ elements, e ∈ indexedElements) ∧ (∀ i ∈ isotopes, i ∈ indexedIsotopes) := by
  have h := chk_indexed
  simp only [chkIndexed, Bool.and_eq_true] at h
  exact ⟨fun _ he => subseqB_sound El.beq_iff.mp h.1 he, fun _ hi => subseqB_sound Iso.beq_iff.mp h.2 hi⟩

/-- every indexed object is an exported object (no stale binding is reachable through an index) -/
def chkIndexedExported : Bool :=
  (subseqB El.beq indexedElements elements || indexedElements.all fun e => memEl e elements) &&
  (subseqB Iso.beq indexedIsotopes isotopes || indexedIsotopes.all fun i => i.memB isotopes)
theorem chk_indexed_exported : chkIndexedExported = true := by decide +kernel

theorem all_indexed_exported :
    (∀ e ∈ indexedElements, e ∈ elements) ∧ (∀ i ∈ indexedIsotopes, i ∈ isotopes) := by
  have h := chk_indexed_exported
  simp only [chkIndexedExported, Bool.and_eq_true, Bool.or_eq_true, List.all_eq_true, memEl_iff, Iso.memB_iff] at h
  exact ⟨fun e he => h.1.elim (fun h1 => subseqB_sound El.beq_iff.mp h1 he) fun h1 => h1 e he,
    fun i hi => h.2.elim (fun h1 => subseqB_sound Iso.beq_iff.mp h1 hi) fun h1 => h1 i hi⟩

/-- every lookup theorem below is this fact, or its twin for isotopes, read through `lookup_element` / `lookup_isotope` -/
theorem elementIndex_get? (k : Nat) (e : El) : elementIndex.get? k = some e ↔ e ∈ elements ∧ k ∈ elementKeys e :=
  (get?_buildIndex_iff element_index_collision_free k e).trans
    (and_congr_left fun _ => ⟨all_indexed_exported.1 e, all_exported_indexed.1 e⟩)

theorem isotopeIndex_get? (k : Nat) (i : Iso) : isotopeIndex.get? k = some i ↔ i ∈ isotopes ∧ k ∈ isotopeKeys i :=
  (get?_buildIndex_iff isotope_index_collision_free k i).trans
    (and_congr_left fun _ => ⟨all_indexed_exported.2 i, all_exported_indexed.2 i⟩)

theorem element_of_key {a b : El} (ha : a ∈ elements) (hb : b ∈ elements) {k : Nat} (hka : k ∈ elementKeys a)
    (hkb : k ∈ elementKeys b) : a = b :=
  element_index_collision_free a (all_exported_indexed.1 a ha) b (all_exported_indexed.1 b hb) k hka hkb

theorem isotope_of_key {a b : Iso} (ha : a ∈ isotopes) (hb : b ∈ isotopes) {k : Nat} (hka : k ∈ isotopeKeys a)
    (hkb : k ∈ isotopeKeys b) : a = b :=
  isotope_index_collision_free a (all_exported_indexed.2 a ha) b (all_exported_indexed.2 b hb) k hka hkb

/-! ## uniqueness of names and symbols (compared case-insensitively, which is the stronger statement) -/

def chkNames : Bool := idxOk nameTree.find 0 (allSpecies.map fun s => lower s.base.name)
theorem chk_names : chkNames = true := by decide +kernel

/-- no two species (elements and isotopes together) share a name, even up to letter case -/
theorem names_unique : (allSpecies.map fun s => lower s.base.name).Nodup := nodup_of_idxOk chk_names

/-- … hence no two share a name exactly -/
theorem names_unique_exact : (allSpecies.map fun s => s.base.name).Nodup := by
  refine List.Nodup.of_map lower ?_
  rw [List.map_map]
  exact names_unique

theorem species_nodup : allSpecies.Nodup := List.Nodup.of_map _ names_unique_exact

theorem elements_nodup : elements.Nodup := List.Nodup.of_map Sp.el (List.Nodup.of_append_left species_nodup)

theorem isotopes_nodup : isotopes.Nodup := List.Nodup.of_map Sp.iso (List.Nodup.of_append_right species_nodup)

/-- no two elements share a symbol (even up to letter case) -/
theorem element_symbols_unique : (elements.map fun e => lower e.sym).Nodup :=
  elements_nodup.map_on fun _ ha _ hb hab =>
    element_of_key ha hb (mem_elementKeys.mpr (.inl rfl)) (mem_elementKeys.mpr (.inl hab))

/-- no two isotopes share a symbol (even up to letter case) -/
theorem isotope_symbols_unique : (isotopes.map fun i => lower i.base.sym).Nodup :=
  isotopes_nodup.map_on fun _ ha _ hb hab =>
    isotope_of_key ha hb (mem_isotopeKeys.mpr (.inl rfl)) (mem_isotopeKeys.mpr (.inl hab))

/-- no two elements share an atomic number -/
theorem atomic_numbers_unique : (elements.map fun e => strNat e.z).Nodup :=
  elements_nodup.map_on fun _ ha _ hb hab =>
    element_of_key ha hb (mem_elementKeys.mpr (.inr (.inr rfl))) (mem_elementKeys.mpr (.inr (.inr hab)))

def chkPeriodic : Bool :=
  elements.all fun e => Cherab.Periodic.symbolMatches e.z e.sym && Cherab.Periodic.nameMatches e.z e.name

theorem chk_periodic : chkPeriodic = true := by decide +kernel

/-- every element's (atomic number, symbol) is a row of the hand-written reference table, and its name is the
IUPAC name (or a listed variant spelling) of that atomic number -/
theorem atomic_numbers_match_periodic_table (e : El) (he : e ∈ elements) :
    Cherab.Periodic.symbolMatches e.z e.sym = true ∧ Cherab.Periodic.nameMatches e.z e.name = true := by
  have h := chk_periodic
  simp only [chkPeriodic, List.all_eq_true, Bool.and_eq_true] at h
  exact h e he

/-- the reference table itself is well-formed: 118 rows, Z = 1 … 118 in order, symbols pairwise different -/
theorem periodic_table_wellformed :
    Cherab.Periodic.table.map (·.1) = List.range' 1 118 ∧ nodupB (Cherab.Periodic.coded.map (·.2.1)) = true := by
  decide +kernel

/-- `Isotope.__init__` (as generated from the source) hands its element's atomic number to `Element.__init__`:
for every isotope that can be constructed, not only the registered ones -/
theorem isotope_ctor_atomic_number (name symbol : Nat) (element : El) (massNumber : Nat) (w : Nat × Nat) :
    (mkIsotope name symbol element massNumber w).base.z = element.z ∧
    (mkIsotope name symbol element massNumber w).parent = element ∧
    (mkIsotope name symbol element massNumber w).a = massNumber := ⟨rfl, rfl, rfl⟩

def chkIsotopes : Bool :=
  ((dropRepeats El.beq (isotopes.map (·.parent))).all fun e => memEl e elements) &&
  isotopes.all fun i =>
    i.base.z.beq i.parent.z && Nat.ble 1 i.base.z && Nat.ble i.base.z i.a &&
    Nat.ble 1 i.base.wDen && weightNear i.base.wNum i.base.wDen i.a

theorem chk_isotopes : chkIsotopes = true := by decide +kernel

/-- each isotope's element is an exported element; the isotope has that element's atomic number, a mass number not
smaller than it, and an atomic weight (the exact value of the stored double) within 0.1 u of the mass number -/
theorem isotope_consistent (i : Iso) (hi : i ∈ isotopes) :
    i.parent ∈ elements ∧ i.base.z = i.parent.z ∧ 1 ≤ i.base.z ∧ i.base.z ≤ i.a ∧
    |(i.base.wNum : ℚ) / i.base.wDen - i.a| ≤ 1 / 10 := by
  have h := chk_isotopes
  simp only [chkIsotopes, List.all_eq_true, Bool.and_eq_true, Nat.ble_eq, memEl_iff] at h
  obtain ⟨⟨⟨⟨h2, h3⟩, h4⟩, h5⟩, h6⟩ := h.2 i hi
  exact ⟨h.1 _ (subset_dropRepeats El.beq_iff.mp _ (List.mem_map_of_mem hi)), nbeq.mp h2, h3, h4,
    weightNear_sound h5 h6⟩

/-- the exact spelling is tried first; `isotopeNamedAfter` itself is evaluated only for the rest (the hydrogen names,
other letter cases) -/
def chkIsotopeNaming : Bool :=
  isotopes.all fun i => i.spelledAfterElement ||
    Cherab.Periodic.isotopeNamedAfter i.parent.z i.parent.name i.parent.sym i.a i.base.name i.base.sym

theorem chk_isotope_naming : chkIsotopeNaming = true := by decide +kernel

/-- **an isotope is attached to the right element**: its element's (Z, symbol, name) is a row of the hand-written
periodic table, and the isotope is named after *that* element — name `<element name><A>`, symbol `<element symbol><A>`,
or one of the documented hydrogen names (protium/H, deuterium/D, tritium/T with A = 1, 2, 3 and Z = 1).  An isotope
built with the wrong parent (hence the wrong atomic number) cannot satisfy this. -/
theorem isotope_named_after_its_element (i : Iso) (hi : i ∈ isotopes) :
    Cherab.Periodic.symbolMatches i.parent.z i.parent.sym = true ∧
    Cherab.Periodic.nameMatches i.parent.z i.parent.name = true ∧
    Cherab.Periodic.isotopeNamedAfter i.parent.z i.parent.name i.parent.sym i.a i.base.name i.base.sym = true := by
  have h := chk_isotope_naming
  simp only [chkIsotopeNaming, List.all_eq_true, Bool.or_eq_true] at h
  have hp := atomic_numbers_match_periodic_table i.parent (isotope_consistent i hi).1
  refine ⟨hp.1, hp.2, (h i hi).elim (fun hx => ?_) id⟩
  have hl := Iso.lower_of_spelledAfterElement hx
  exact isotopeNamedAfter_iff.mpr (.inl ⟨hl.2.trans (lower_cat_strNat _ _).symm, hl.1.trans (lower_cat_strNat _ _).symm⟩)

/-- general: `(symbol + str(A)).lower()` is `symbol.lower() + str(A)` whenever lower-casing leaves `str(A)` alone -/
theorem lower_cat (a b : Nat) (hb : lower b = b) : lower (cat a b) = cat (lower a) b := lower_cat_of a b hb

/-! ## lookups are total decision functions

`lookup_*` answers with an object **iff** the (lower-cased) argument is one of that object's identifiers — in particular
nothing is ever returned for a spelling that is not an identifier; the round trips are the ⇐ direction. -/

/-- **`lookup_element` decides identifier membership** (every `str` argument `s`): it returns the element `e` iff `e` is
exported and the lower-cased `s` is `e`'s lower-cased symbol, lower-cased name, or decimal atomic number; otherwise it
raises.  Together with collision-freeness the answer is unique. -/
theorem lookup_element_decision (s : Nat) (e : El) :
    lookupElement elementIndex (.str s) = some e ↔
      e ∈ elements ∧ (lower s = lower e.sym ∨ lower s = lower e.name ∨ lower s = strNat e.z) := by
  rw [lookupElement_str, elementIndex_get?, mem_elementKeys]

/-- … and raises `ValueError` iff no exported element has that identifier -/
theorem lookup_element_none_iff (s : Nat) :
    lookupElement elementIndex (.str s) = none ↔
      ∀ e ∈ elements, ¬ (lower s = lower e.sym ∨ lower s = lower e.name ∨ lower s = strNat e.z) := by
  simp only [Option.eq_none_iff_forall_ne_some, ne_eq, lookup_element_decision, not_and]

example : lookupElement elementIndex (.str (enc "unobtainium")) = none := by decide +kernel

/-- `lookup_element(s)` returns the element itself for every spelling `s` of its symbol or name in any letter case,
for its atomic number written as a string or given as an `int`, and for the object itself -/
theorem lookup_element_roundtrip (e : El) (he : e ∈ elements) :
    (∀ s, lower s = lower e.sym → lookupElement elementIndex (.str s) = some e) ∧
    (∀ s, lower s = lower e.name → lookupElement elementIndex (.str s) = some e) ∧
    lookupElement elementIndex (.str (strNat e.z)) = some e ∧
    lookupElement elementIndex (.int e.z) = some e ∧
    lookupElement elementIndex (.elem e) = some e := by
  -- an `int` is looked up through its numeral, which lower-casing leaves alone
  have hz := (lookup_element_decision (strNat e.z) e).mpr ⟨he, .inr (.inr (lower_strNat _))⟩
  exact ⟨fun s hs => (lookup_element_decision s e).mpr ⟨he, .inl hs⟩,
    fun s hs => (lookup_element_decision s e).mpr ⟨he, .inr (.inl hs)⟩, hz, hz, rfl⟩

/- Full statement:  `lookupElement elementIndex (.int n) = some e ↔ e ∈ elements ∧ n = e.z`  for every `n : Int`
   (`lookup_element_int_decision`, Props/C19Int.lean).  Here: ⇐ in full, ⇒ up to "the numeral `str(n)` is one of `e`'s
   three keys". -/
theorem lookup_element_int_decision_partial (n : Int) (e : El) :
    (lookupElement elementIndex (.int n) = some e ↔ e ∈ elements ∧ lower (strInt n) ∈ elementKeys e) ∧
    (e ∈ elements → n = e.z → lookupElement elementIndex (.int n) = some e) :=
  ⟨by rw [lookupElement_int, elementIndex_get?], fun he hn => hn ▸ (lookup_element_roundtrip e he).2.2.2.1⟩

example : lookupElement elementIndex (.int (-6)) = none := by decide +kernel

/-- **`lookup_isotope` (no number) decides identifier membership**: returns `i` iff `i` is exported and the lower-cased
argument is its lower-cased symbol, name, `<element symbol><A>` or `<element name><A>` -/
theorem lookup_isotope_decision (s : Nat) (i : Iso) :
    lookupIsotope elementIndex isotopeIndex (.str s) none = some i ↔
      i ∈ isotopes ∧ (lower s = lower i.base.sym ∨ lower s = lower i.base.name ∨
        lower s = cat (lower i.parent.sym) (strNat i.a) ∨ lower s = cat (lower i.parent.name) (strNat i.a)) := by
  rw [lookupIsotope_str, isotopeIndex_get?, mem_isotopeKeys]

/-- `lookup_isotope(s)` returns the isotope itself for every spelling, in any letter case, of its symbol, its name,
`<element symbol><A>` and `<element name><A>`; and for the object itself -/
theorem lookup_isotope_roundtrip (i : Iso) (hi : i ∈ isotopes) :
    (∀ s, lower s = lower i.base.sym → lookupIsotope elementIndex isotopeIndex (.str s) none = some i) ∧
    (∀ s, lower s = lower i.base.name → lookupIsotope elementIndex isotopeIndex (.str s) none = some i) ∧
    (∀ s, lower s = lower (cat i.parent.sym (strNat i.a)) →
      lookupIsotope elementIndex isotopeIndex (.str s) none = some i) ∧
    (∀ s, lower s = lower (cat i.parent.name (strNat i.a)) →
      lookupIsotope elementIndex isotopeIndex (.str s) none = some i) ∧
    (∀ n, lookupIsotope elementIndex isotopeIndex (.isot i) n = some i) :=
  ⟨fun s hs => (lookup_isotope_decision s i).mpr ⟨hi, .inl hs⟩,
    fun s hs => (lookup_isotope_decision s i).mpr ⟨hi, .inr (.inl hs)⟩,
    fun s hs => (lookup_isotope_decision s i).mpr ⟨hi, .inr (.inr (.inl (hs.trans (lower_cat_strNat _ _))))⟩,
    fun s hs => (lookup_isotope_decision s i).mpr ⟨hi, .inr (.inr (.inr (hs.trans (lower_cat_strNat _ _))))⟩,
    fun _ => rfl⟩

/-- **`lookup_isotope(v, number=n)` decides**: for `n ≠ 0` and `v` not an isotope object it returns `i` iff `v` resolves
(by `lookup_element`) to some element `e` and `(e.symbol + str(n)).lower()` is one of `i`'s four keys; for `n = i.a` that
`e` is `i`'s own element (`lookup_isotope_only_by_own_element`) -/
theorem lookup_isotope_number_decision (q : Query) (hq : ∀ j, q ≠ .isot j) (n : Int) (hn : n ≠ 0) (i : Iso) :
    lookupIsotope elementIndex isotopeIndex q (some n) = some i ↔
      ∃ e, lookupElement elementIndex q = some e ∧ i ∈ isotopes ∧ lower (cat e.sym (strInt n)) ∈ isotopeKeys i := by
  rw [lookupIsotope_number _ _ _ hq _ hn]
  cases lookupElement elementIndex q <;> simp [isotopeIndex_get?]

/-- **lookup normalisation**: whatever is passed — a `str` in any letter case, an `int`, a numpy integer (anything whose
`str()` is the decimal numeral), or an `Isotope` object (through its `repr`) — `lookup_element` answers exactly as for the
string `str(v)`; only an `Element` object short-circuits.  Likewise `lookup_isotope` without a number. -/
theorem lookup_normalisation (q : Query) :
    ((∀ e, q ≠ .elem e) → lookupElement elementIndex q = lookupElement elementIndex (.str q.str')) ∧
    ((∀ i, q ≠ .isot i) → lookupIsotope elementIndex isotopeIndex q none =
      lookupIsotope elementIndex isotopeIndex (.str q.str') none) := by
  cases q with
  | elem e => exact ⟨fun h => absurd rfl (h e), fun _ => rfl⟩
  | isot i => exact ⟨fun _ => rfl, fun h => absurd rfl (h i)⟩
  | str s => exact ⟨fun _ => rfl, fun _ => rfl⟩
  | int n => exact ⟨fun _ => rfl, fun _ => rfl⟩

example : lookupElement elementIndex (.int 26) = lookupElement elementIndex (.str (enc "26")) :=
  ((lookup_normalisation (.int 26)).1 nofun).trans (by rw [show (Query.int 26).str' = enc "26" by decide +kernel])

/-- `lookup_isotope(v, number=A)` returns the isotope for **every** `v` that `lookup_element` resolves to the
isotope's element (symbol / name in any case, atomic number as `str` or `int`, the `Element` object) -/
theorem lookup_isotope_by_element_and_number (i : Iso) (hi : i ∈ isotopes) (q : Query) (hq : ∀ j, q ≠ .isot j)
    (hel : lookupElement elementIndex q = some i.parent) :
    lookupIsotope elementIndex isotopeIndex q (some (i.a : Int)) = some i := by
  have hn : (i.a : Int) ≠ 0 := by have := (isotope_consistent i hi).2.2; omega
  refine (lookup_isotope_number_decision q hq _ hn i).mpr ⟨_, hel, hi, ?_⟩
  rw [show strInt (i.a : Int) = strNat i.a from rfl, lower_cat_strNat]
  exact mem_isotopeKeys.mpr (.inr (.inr (.inl rfl)))

example : lookupIsotope elementIndex isotopeIndex (.str (enc "he")) (some 3) = some o_helium3 :=
  lookup_isotope_by_element_and_number o_helium3 (by decide +kernel) _ nofun
    ((lookup_element_roundtrip o_helium (by decide +kernel)).1 _ (by decide +kernel))

/-- a key of an exported isotope that ends in `str(A)` starts with the lower-cased symbol or name of the isotope's own
element: that is how the isotope is named, and the special hydrogen names do not end in a digit -/
theorem isotope_key_prefix (i : Iso) (hi : i ∈ isotopes) (x : Nat) (hk : cat x (strNat i.a) ∈ isotopeKeys i) :
    x = lower i.parent.sym ∨ x = lower i.parent.name := by
  have hcat : ∀ {y}, cat x (strNat i.a) = cat y (strNat i.a) → x = y := fun h => by
    rw [← cat_div x (strNat i.a), h, cat_div]
  have hdig := cat_strNat_last x i.a
  have hrows : ∀ r ∈ Cherab.Periodic.hydrogenIsotopesCoded,
      endsInDigit (lower r.2.1) = false ∧ endsInDigit r.2.2 = false := by decide +kernel
  rw [mem_isotopeKeys] at hk
  rcases isotopeNamedAfter_iff.mp (isotope_named_after_its_element i hi).2.2 with
    ⟨hname, hsym⟩ | ⟨-, r, hr, -, hsym, hname⟩
  · rw [lower_cat_strNat] at hname hsym
    rcases hk with h | h | h | h
    · exact .inl (hcat (h.trans hsym))
    · exact .inr (hcat (h.trans hname))
    · exact .inl (hcat h)
    · exact .inr (hcat h)
  · rcases hk with h | h | h | h
    · rw [h, ← hsym, (hrows r hr).1] at hdig; exact absurd hdig nofun
    · rw [h, ← hname, (hrows r hr).2] at hdig; exact absurd hdig nofun
    · exact .inl (hcat h)
    · exact .inr (hcat h)

/-- `lookup_isotope(v, number=A)` returns an isotope **only** for its own element: if `v` resolves (by
`lookup_element`) to an exported element `e` and the lookup yields isotope `i` with `A = i.a`, then `e` is `i`'s element -/
theorem lookup_isotope_only_by_own_element (i : Iso) (hi : i ∈ isotopes) (e : El) (he : e ∈ elements) (q : Query)
    (hq : ∀ j, q ≠ .isot j) (hel : lookupElement elementIndex q = some e)
    (h : lookupIsotope elementIndex isotopeIndex q (some (i.a : Int)) = some i) : e = i.parent := by
  have ha : (i.a : Int) ≠ 0 := by have := (isotope_consistent i hi).2.2; omega
  obtain ⟨e', he', -, hk⟩ := (lookup_isotope_number_decision q hq _ ha i).mp h
  obtain rfl : e = e' := Option.some.inj (hel.symm.trans he')
  rw [show strInt (i.a : Int) = strNat i.a from rfl, lower_cat_strNat] at hk
  have hsym : lower e.sym ∈ elementKeys e := mem_elementKeys.mpr (.inl rfl)
  have hp := (isotope_consistent i hi).1
  -- the prefix `e.symbol.lower()` is a key of `e` and of `i`'s element; element keys are collision-free
  rcases isotope_key_prefix i hi _ hk with h1 | h1
  · exact element_of_key he hp hsym (mem_elementKeys.mpr (.inl h1))
  · exact element_of_key he hp hsym (mem_elementKeys.mpr (.inr (.inl h1)))

theorem hash_fields_subset : cfg.elHash ⊆ cfg.elEq ∧ cfg.isoHash ⊆ cfg.isoEq ∧ cfg.lineHash ⊆ cfg.lineEq := by
  decide

theorem ne_fields_same :
    (cfg.elNe ⊆ cfg.elEq ∧ cfg.elEq ⊆ cfg.elNe) ∧ (cfg.isoNe ⊆ cfg.isoEq ∧ cfg.isoEq ⊆ cfg.isoNe) ∧
    (cfg.lineNe ⊆ cfg.lineEq ∧ cfg.lineEq ⊆ cfg.lineNe) := by
  decide

/-- **all** `Element` objects (registered or not): `a == b` implies `hash(a) == hash(b)` -/
theorem element_eq_hash (a b : El) (h : elEq cfg a b = true) : elHash cfg a = elHash cfg b :=
  elEq_hash hash_fields_subset.1 h

/-- **all** `Isotope` objects: `a == b` implies `hash(a) == hash(b)` -/
theorem isotope_eq_hash (a b : Iso) (h : isoEq cfg a b = true) : isoHash cfg a = isoHash cfg b :=
  isoEq_hash hash_fields_subset.1 hash_fields_subset.2.1 h

/-- **all** species: `a != b` is `not (a == b)` -/
theorem species_ne_is_not_eq (a b : Sp) : pyNe cfg a b = !pyEq cfg a b :=
  pyNe_eq_not ne_fields_same.1 ne_fields_same.2.1 a b
theorem species_eq_refl (a : Sp) : pyEq cfg a a = true := pyEq_refl cfg a

theorem name_is_compared : EField.name ∈ cfg.elEq ∧ IField.inh .name ∈ cfg.isoEq := by decide

theorem species_unequal_of_name_ne {a b : Sp} (h : a.base.name ≠ b.base.name) : pyEq cfg a b = false :=
  pyEq_false_of_name_ne name_is_compared.1 name_is_compared.2 h

theorem eq_fields_cover : (∀ f : EField, f ∈ cfg.elEq) ∧ (∀ f : IField, f ∈ cfg.isoEq) := by
  refine ⟨fun f => ?_, fun f => ?_⟩
  · cases f <;> decide
  · rcases f with (g | _ | _)
    · cases g <;> decide
    · decide
    · decide

theorem line_eq_fields : ∀ f : LField, f ∈ cfg.lineEq := by
  intro f; cases f <;> decide

/-- distinct exported species (elements and isotopes, mixed pairs included, both argument orders) compare unequal -/
theorem distinct_species_unequal :
    allSpecies.Pairwise fun a b => (pyEq cfg a b = false ∧ pyNe cfg a b = true) ∧
      (pyEq cfg b a = false ∧ pyNe cfg b a = true) := by
  refine (List.pairwise_map.mp names_unique_exact).imp ?_
  intro a b hab
  simp [species_ne_is_not_eq, species_unequal_of_name_ne hab, species_unequal_of_name_ne (Ne.symm hab)]

/-- on the registry `==` is identity -/
theorem species_eq_iff (a b : Sp) (ha : a ∈ allSpecies) (hb : b ∈ allSpecies) : pyEq cfg a b = true ↔ a = b := by
  constructor
  · intro h
    -- names determine the species on the registry, and species with different names are not `==`
    refine List.inj_on_of_nodup_map names_unique_exact ha hb (Decidable.of_not_not fun hnm => ?_)
    rw [species_unequal_of_name_ne hnm] at h
    exact Bool.noConfusion h
  · rintro rfl
    exact pyEq_refl cfg a

/-- equal exported species hash equally (so they work as `dict` / `set` keys) -/
theorem equal_species_hash_equal (a b : Sp) (ha : a ∈ allSpecies) (hb : b ∈ allSpecies)
    (h : pyEq cfg a b = true) : spHash cfg a = spHash cfg b := by
  rw [(species_eq_iff a b ha hb).mp h]

/-- outside the registry the mixed comparison is *not* hash-consistent: an `Isotope` constructed with an element's
name, symbol and weight compares equal to that `Element` but hashes a longer tuple (not an exported object; recorded so
that the scope of `equal_species_hash_equal` is explicit) -/
theorem mixed_eq_hash_witness : cfg.strictKind = false →
    ∃ (e : El) (i : Iso), pyEq cfg (.el e) (.iso i) = true ∧ hashBeq (spHash cfg (.el e)) (spHash cfg (.iso i)) = false := by
  intro hs
  -- the mixed comparison looks at the inherited `Element` part only, the two hash tuples have 4 and 5 entries
  exact ⟨o_hydrogen, mkIsotope o_hydrogen.name o_hydrogen.sym o_hydrogen 1 (o_hydrogen.wNum, o_hydrogen.wDen),
    (pyEq_mixed_iff eq_fields_cover.1 hs _ _).1.mpr rfl, by decide +kernel⟩

/-- once `Element.__richcmp__` refuses objects of a different exact type (`cfg.strictKind`, notes/fixes/C19-1.diff) the
gap closes: for **all** species, registered or constructed, mixed or not, `a == b` implies equal hash arguments.
(Vacuous on the current tree, where `cfg.strictKind = false`; it becomes the operative theorem when the fix lands and
the translator emits `strictKind := true`.) -/
theorem all_species_eq_hash_if_strict (hs : cfg.strictKind = true) (a b : Sp) (h : pyEq cfg a b = true) :
    spHash cfg a = spHash cfg b :=
  pyEq_hash_strict hash_fields_subset.1 hash_fields_subset.2.1 hs h

/-- **value-based equality, all objects**: two species objects of the same exact type are `==` exactly when every
attribute coincides (name, symbol, atomic number, the double atomic weight; for isotopes also mass number and element) —
never by identity, never ignoring a field -/
theorem species_eq_iff_same_value (a b : Sp) (hk : SameKind a b) : pyEq cfg a b = true ↔ a = b :=
  pyEq_sameKind_iff eq_fields_cover.1 eq_fields_cover.2 hk

example : pyEq cfg (.iso o_deuterium) (.iso (mkIsotope o_deuterium.base.name o_deuterium.base.sym o_hydrogen 2
    (o_deuterium.base.wNum, o_deuterium.base.wDen))) = true := by decide +kernel

/-- mixed pairs, all objects, either argument order: `==` holds exactly when the `Element` coincides with the
inherited `Element` part of the `Isotope` -/
theorem species_eq_mixed_iff (hs : cfg.strictKind = false) (e : El) (i : Iso) :
    (pyEq cfg (.el e) (.iso i) = true ↔ e = i.base) ∧ (pyEq cfg (.iso i) (.el e) = true ↔ e = i.base) :=
  pyEq_mixed_iff eq_fields_cover.1 hs e i

/-- with the exact-type guard: a mixed pair is never `==` -/
theorem species_eq_mixed_strict (hs : cfg.strictKind = true) (e : El) (i : Iso) :
    pyEq cfg (.el e) (.iso i) = false ∧ pyEq cfg (.iso i) (.el e) = false :=
  pyEq_mixed_strict hs e i

/-- **eq ⇒ hash, all objects, exact scope**: for species that compare equal the hash arguments coincide **iff** the
two objects have the same exact type.  (⇐ is `element_eq_hash`/`isotope_eq_hash`; ⇒ says the mixed pair is the *only*
incoherent case, and it always is: the tuples have 4 and 5 entries.) -/
theorem species_eq_hash_iff_same_kind (a b : Sp) (h : pyEq cfg a b = true) :
    spHash cfg a = spHash cfg b ↔ SameKind a b := by
  constructor
  · intro hh
    cases a <;> cases b <;> simp only [SameKind]
    · exact absurd hh (spHash_mixed_ne (by decide) _ _)
    · exact absurd hh.symm (spHash_mixed_ne (by decide) _ _)
  · intro hk
    exact pyEq_hash_sameKind hash_fields_subset.1 hash_fields_subset.2.1 hk h

example : SameKind (.el o_iron) (.el o_iron) ∧ pyEq cfg (.el o_iron) (.el o_iron) = true := ⟨trivial, by decide +kernel⟩

/-- on the registry all three agree, mixed pairs included: `a == b ⇔ ¬(a != b) ⇔ a is b`, and `==` implies equal hashes -/
theorem registry_eq_ne_hash_coherent (a b : Sp) (ha : a ∈ allSpecies) (hb : b ∈ allSpecies) :
    (pyEq cfg a b = true ↔ pyNe cfg a b = false) ∧ (pyEq cfg a b = true ↔ a = b) ∧
    (pyEq cfg a b = true → spHash cfg a = spHash cfg b) := by
  refine ⟨?_, species_eq_iff a b ha hb, equal_species_hash_equal a b ha hb⟩
  rw [species_ne_is_not_eq]
  cases pyEq cfg a b <;> simp

example : Sp.el o_hydrogen ∈ allSpecies ∧ Sp.iso o_protium ∈ allSpecies := by decide +kernel

/-! ## lines as dictionary keys

`==` on lines is `==` on the three fields; whatever is known about `==` and `hash` of the two species carries over. -/

section lines
variable {τ : Type} [DecidableEq τ]

/-- two lines over exported species are `==` exactly when element, charge and transition coincide -/
theorem line_eq_iff (a b : Line τ) (ha : a.element ∈ allSpecies) (hb : b.element ∈ allSpecies) :
    lineEq cfg a b = true ↔ (a.element = b.element ∧ a.charge = b.charge ∧ a.transition = b.transition) := by
  rw [lineEq_iff line_eq_fields, species_eq_iff _ _ ha hb]

/-- equal lines over exported species hash equally -/
theorem line_eq_hash (a b : Line τ) (ha : a.element ∈ allSpecies) (hb : b.element ∈ allSpecies)
    (h : lineEq cfg a b = true) : lineHash cfg a = lineHash cfg b :=
  lineEq_hash hash_fields_subset.2.2 (equal_species_hash_equal _ _ ha hb) h

/-- **all** lines: `a != b` is `not (a == b)` -/
theorem line_ne_is_not_eq (a b : Line τ) : lineNe cfg a b = !lineEq cfg a b :=
  lineNe_eq_not species_ne_is_not_eq ne_fields_same.2.2 a b

/-- **all lines** (any species objects of the same exact type, any charge, any transition): `==` exactly when element,
charge and transition coincide; the hashes then coincide (`line_eq_hash_all`), and `!=` is the negation (`line_ne_is_not_eq`) -/
theorem line_eq_iff_same_value (a b : Line τ) (hk : SameKind a.element b.element) :
    lineEq cfg a b = true ↔ (a.element = b.element ∧ a.charge = b.charge ∧ a.transition = b.transition) := by
  rw [lineEq_iff line_eq_fields, species_eq_iff_same_value _ _ hk]

theorem line_eq_hash_all (a b : Line τ) (hk : SameKind a.element b.element) (h : lineEq cfg a b = true) :
    lineHash cfg a = lineHash cfg b :=
  lineEq_hash hash_fields_subset.2.2 (pyEq_hash_sameKind hash_fields_subset.1 hash_fields_subset.2.1 hk) h

example : lineEq cfg (⟨.el o_carbon, 2, (1 : Nat)⟩ : Line Nat) ⟨.el o_carbon, 2, 1⟩ = true := by decide +kernel

/-- what is **not** true, stated so the scope is explicit: a line on an `Element` and a line on an `Isotope` carrying that
element's name, symbol and weight are `==` but hash differently (constructed objects only; `line_eq_hash` covers the registry) -/
theorem line_mixed_witness : cfg.strictKind = false →
    ∃ a b : Line Nat, lineEq cfg a b = true ∧ lineHash cfg a ≠ lineHash cfg b := by
  intro hs
  exact ⟨⟨.el o_hydrogen, 0, 1⟩,
    ⟨.iso (mkIsotope o_hydrogen.name o_hydrogen.sym o_hydrogen 1 (o_hydrogen.wNum, o_hydrogen.wDen)), 0, 1⟩,
    (lineEq_iff line_eq_fields _ _).mpr ⟨(pyEq_mixed_iff eq_fields_cover.1 hs _ _).1.mpr rfl, rfl, rfl⟩,
    fun h => spHash_mixed_ne (by decide) _ _ (lineHash_element (by decide) h)⟩

/-- with the exact-type guard: **all** lines, any species — `==` implies equal hashes -/
theorem all_lines_eq_hash_if_strict (hs : cfg.strictKind = true) (a b : Line τ) (h : lineEq cfg a b = true) :
    lineHash cfg a = lineHash cfg b :=
  lineEq_hash hash_fields_subset.2.2 (all_species_eq_hash_if_strict hs _ _) h

end lines

/-! ## non-vacuity -/

/-- the table is not empty (lower bounds only: adding species must not break the build) -/
example : 80 ≤ elements.length ∧ 250 ≤ isotopes.length ∧ allSpecies.length = elements.length + isotopes.length := by
  decide +kernel
example : lookupElement elementIndex (.str (enc "Fe")) = some o_iron := by decide +kernel
example : lookupElement elementIndex (.str (enc "TUNGSTEN")) = some o_tungsten := by decide +kernel
example : lookupElement elementIndex (.int 18) = some o_argon :=
  (lookup_element_roundtrip o_argon (by decide +kernel)).2.2.2.1
example : lookupElement elementIndex (.str (enc "xx")) = none := by decide +kernel
/- reading the isotope index evaluates nearly all of its keys; the round trips need one membership and one `lower` each -/
example : lookupIsotope elementIndex isotopeIndex (.str (enc "D")) none = some o_deuterium :=
  (lookup_isotope_roundtrip o_deuterium (by decide +kernel)).1 _ (by decide +kernel)
example : lookupIsotope elementIndex isotopeIndex (.str (enc "hE3")) none = some o_helium3 :=
  (lookup_isotope_roundtrip o_helium3 (by decide +kernel)).1 _ (by decide +kernel)
example : lookupIsotope elementIndex isotopeIndex (.int 1) (some 3) = some o_tritium :=
  lookup_isotope_by_element_and_number o_tritium (by decide +kernel) _ nofun
    (lookup_element_roundtrip o_hydrogen (by decide +kernel)).2.2.2.1
example : lookupIsotope elementIndex isotopeIndex (.str (enc "Hydrogen")) (some 2) = some o_deuterium :=
  lookup_isotope_by_element_and_number o_deuterium (by decide +kernel) _ nofun
    ((lookup_element_roundtrip o_hydrogen (by decide +kernel)).2.1 _ (by decide +kernel))
example : o_deuterium ∈ isotopes ∧ o_deuterium.parent = o_hydrogen ∧ o_hydrogen ∈ elements := by decide +kernel
/-- the element `hydrogen` and the isotope `protium` share the symbol "H": allowed (uniqueness is per kind), unequal -/
example : o_hydrogen.sym = o_protium.base.sym ∧ pyEq cfg (.el o_hydrogen) (.iso o_protium) = false := by decide +kernel
example : lineEq cfg (⟨.iso o_deuterium, 0, (3, 2)⟩ : Line (Nat × Nat)) ⟨.iso o_deuterium, 0, (3, 2)⟩ = true := by
  decide +kernel

end Cherab.Props.C19
