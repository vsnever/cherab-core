import Cherab.Props.C19

/-!
# C19: constructing species does not change what the lookups return

The registry as a state machine (`Model/Registry.lean`: `RegState`, `RegEvent`, `RegState.step/run`): after import the only
code that could touch `_element_index` / `_isotope_index` is a constructor body.  The translator reads both `__init__`
bodies (`elementCtorKeys` / `isotopeCtorKeys` = the index keys they write; a body containing anything but `self.f = …`
and `super().__init__(…)` is rejected), so for the current source every history of public-constructor calls leaves both
dictionaries — hence every lookup — unchanged.  The negative theorem shows the statement is not vacuous: a
self-registering constructor (keys = `elementKeys`) does change a lookup after a single construction.
-/

namespace Cherab.Props.C19

open Cherab.Registry Cherab.Gen.Elements

/-- the state right after import -/
def importState : RegState := ⟨elementIndex, isotopeIndex⟩

/-- **every history of `Element(...)` / `Isotope(...)` calls leaves both indices as they were at import** (any arguments:
equal-valued, same name, same symbol, same atomic number, same element + mass number as an exported species, …) -/
theorem construct_preserves_index (s : RegState) (h : List RegEvent) :
    RegState.run elementCtorKeys isotopeCtorKeys s h = s :=
  -- neither constructor body writes a key, so a step returns the state it was given
  List.foldl_fixed' (fun ev => by cases ev <;> rfl) h

/-- … hence every lookup (any argument kind, any `number`) answers after the history what it answered before -/
theorem construct_preserves_lookups (h : List RegEvent) (q : Query) (number : Option Int) :
    let s := RegState.run elementCtorKeys isotopeCtorKeys importState h
    lookupElement s.eidx q = lookupElement elementIndex q ∧
    lookupIsotope s.eidx s.iidx q number = lookupIsotope elementIndex isotopeIndex q number := by
  simp only [construct_preserves_index, importState, and_self]

/-- a user's helium with a rounded weight -/
def userHelium : El := mkElement (enc "helium") (enc "He") 2 (4, 1)

example : lookupElement
    (RegState.run elementCtorKeys isotopeCtorKeys importState [.newEl userHelium, .newIso o_tritium]).eidx (.str (enc "He"))
    = some o_helium := by
  rw [construct_preserves_index]
  exact (lookup_element_roundtrip o_helium (by decide +kernel)).1 _ (by decide +kernel)

/-- non-vacuity: if the constructor registered itself (index keys = the builder's key
expressions), the history `lookup; Element('helium','He',2,4.0); lookup` would change the answer -/
theorem self_registering_ctor_changes_lookup :
    lookupElement importState.eidx (.str (enc "He")) = some o_helium ∧
    lookupElement (RegState.run elementKeys isotopeKeys importState [.newEl userHelium]).eidx (.str (enc "He")) = some userHelium ∧
    userHelium ≠ o_helium :=
  ⟨(lookup_element_roundtrip o_helium (by decide +kernel)).1 _ (by decide +kernel), by decide +kernel, by decide +kernel⟩

end Cherab.Props.C19
