import Cherab.Model.Rates
import Cherab.Gen.OpenAdasPolicy
import Cherab.Props.C07

/-!
# C07 — obligations over the tables generated from the current source (`Cherab/Gen/OpenAdasPolicy.lean`)

Everything here is evaluated by the kernel over the complete generated tables, or instantiates on them a general
theorem of `Props/C07.lean` (about an arbitrary accessor descriptor, class table or memo key).

The tables are those of /repo with its five fixes to these classes (1187109, 2bcf964, 1ec8bb9, 57a68d0, de3325a), so
the statements hold of every accessor and every class, without exceptions.  Reverting any of the five regenerates a
table on which `policy_uniform`, `guards_complete`, `class_table_as_modelled` or `axis_logs_libm` does not build.
Witnesses of the defects before the fixes: `notes/archive/C07AsIs.lean.txt`; failing inputs: `corpus/C07`.
-/
namespace Cherab.Props.C07Table
open Cherab.Rates Cherab.Rates.Policy Cherab.Gen.OpenAdasPolicy

/-- the table lists exactly the thirteen rate accessors of `AtomicData` that `OpenADAS` implements -/
theorem policy_complete : accessors.map (·.name) =
    ["ionisation_rate", "recombination_rate", "thermal_cx_rate", "beam_cx_pec", "beam_stopping_rate",
     "beam_population_rate", "beam_emission_pec", "impact_excitation_pec", "recombination_pec", "thermal_cx_pec",
     "line_radiated_power_rate", "continuum_radiated_power_rate", "cx_radiated_power_rate"] := rfl

/-- every accessor body was understood by the translator -/
theorem policy_recognised : ∀ a ∈ accessors, a.recognised = true ∧ a.handlerStd = true := by decide +kernel

/-- every accessor catches exactly `RuntimeError`, builds its Null object with an accepted argument list, reads the
element's rates, converts with the requested species' wavelength, and forwards `permit_extrapolation` -/
theorem policy_uniform : ∀ a ∈ accessors, Uniform nullSigs a = true := by decide +kernel

/-- `OpenADAS.wavelength` has the documented shape -/
theorem wavelength_uniform : WlUniform wavelengthPolicy = true := by decide +kernel

/-- every Null class used by an accessor is a class whose `evaluate` is `return 0.0` -/
theorem null_classes_zero :
    ∀ a ∈ accessors, (rateClasses.find? (·.name == a.nullClass)).map (·.isNull) = some true := by decide +kernel

/-- the hand-written models of `Model/Rates.lean` hard-code, for each rate class, exactly what the `.pyx` says:
shape-determining `evaluate` parameters, guarded parameters, photon conversion, extrapolation kinds, clamp chain -/
theorem class_table_as_modelled :
    ∀ m ∈ modelled, ∃ c ∈ rateClasses, c.name = m.name ∧ c.evalParams = m.evalParams
      ∧ c.guarded = m.guarded
      ∧ c.extrap.map (·.2) = m.extrap.map (·.2) ∧ (c.photon != []) = m.photon
      ∧ c.chain = m.chain ∧ c.chainOk = true := by decide +kernel

/-- every multiplicative factor of every `evaluate` chain is followed by `if rate <= 0: return 0.0` (with
`cxChainF_nonneg`: BeamCXPEC is non-negative between knots too; without the last clamp
`cxChainF_negative_without_final_clamp` applies) -/
theorem clamps_complete :
    ∀ c ∈ rateClasses, c.chainOk = true ∧ (c.chain.all fun t => t.2.2) = true := by decide +kernel

/-- **no floor / clip / helper between the stored table and the interpolator**: in every constructor the tabulated values
reach the interpolators through `np.log10` applied directly to the stored array (after `PhotonToJ.to` for the photon
classes, `st / sref` for the beam classes), and `__init__` calls nothing outside the known set (third component empty).
This is what `grid2` / `grid3` / `beam` / `beamCX` transcribe as `E.logc (conv cf wl y)` on *every* entry, so the
knot-reproduction theorems (`grid2_at_knot`, `grid3_at_knot`, `beam_at_knot`, `beamCX_at_knot`: the stored value, for
every positive magnitude) speak about the current source.  A `np.maximum(rate, 1e-50)` in a helper or inline changes
this table. -/
theorem table_logs_plain : tableLogs = [
    ("IonisationRate", ["data['rate']"], []),
    ("RecombinationRate", ["data['rate']"], []),
    ("ThermalCXRate", ["data['rate']"], []),
    ("ImpactExcitationPEC", ["PhotonToJ.to(rate,wavelength)"], []),
    ("RecombinationPEC", ["PhotonToJ.to(rate,wavelength)"], []),
    ("ThermalCXPEC", ["PhotonToJ.to(rate,wavelength)"], []),
    ("BeamStoppingRate", ["data['sen']", "data['st']/data['sref']"], []),
    ("BeamPopulationRate", ["data['sen']", "data['st']/data['sref']"], []),
    ("BeamEmissionPEC", ["PhotonToJ.to(data['sen'],wavelength)", "data['st']/data['sref']"], []),
    ("BeamCXPEC", ["PhotonToJ.to(data['qeb'],wavelength)"], []),
    ("LineRadiationPower", ["data['rate']"], []),
    ("ContinuumPower", ["data['rate']"], []),
    ("CXRadiationPower", ["data['rate']"], [])] := rfl

/-- … and it lists exactly the modelled classes, with `PhotonToJ.to` in the first logarithm iff the class is a photon class -/
theorem table_logs_cover_modelled :
    (∀ t ∈ tableLogs, t.1 ∈ modelled.map (·.name)) ∧ tableLogs.length = modelled.length
    ∧ ∀ m ∈ modelled, ∃ t ∈ tableLogs, t.1 = m.name ∧ decide (t.2.1.head? ∈ [some "PhotonToJ.to(rate,wavelength)", some "PhotonToJ.to(data['sen'],wavelength)",
            some "PhotonToJ.to(data['qeb'],wavelength)"]) = m.photon := by
  decide +kernel

/-- every rate class returned by an accessor is modelled -/
theorem rate_classes_modelled : ∀ a ∈ accessors, a.rateClass ∈ modelled.map (·.name) := by decide +kernel

/-- the photon classes are built with the wavelength obtained by the accessor, the others without one -/
theorem wavelength_iff_photon :
    ∀ a ∈ accessors, ∀ m ∈ modelled, m.name = a.rateClass →
      (a.wl.isSome = m.photon ∧ (a.rateArgs.contains (Src.other "wavelength")) = m.photon) := by decide +kernel

/-- positional arguments of each rate constructor call line up with the `__init__` parameters named
`wavelength` / `data` in the `.pyx` -/
def argsLineUp (a : Accessor) (c : RateClassSrc) : Bool :=
  let ps := c.initParams.filter (· != "extrapolate")
  ps.length == a.rateArgs.length &&
  (List.zip ps a.rateArgs).all fun (p, s) =>
    if p == "wavelength" then s == Src.other "wavelength"
    else if p == "data" then (s == Src.other "data" || s == Src.other "rate_data")
    else s != Src.other "wavelength" && s != Src.other "data"

theorem rate_ctor_args : ∀ a ∈ accessors, ∃ c ∈ rateClasses, c.name = a.rateClass ∧ argsLineUp a c = true := by
  decide +kernel

/-- every density / temperature / energy parameter of every `evaluate` is in the leading `<= 0 → return 0` guard -/
theorem guards_complete :
    ∀ c ∈ rateClasses, c.isNull = true ∨ (c.evalParams.all fun p => !isDTE p || c.guarded.contains p) = true := by
  decide +kernel

/-- the log-space knots are computed with the same libm `log10` that `evaluate` applies to its arguments (no
constructor hands `np.log10(axis)` to an interpolator): the hypothesis `LogAgree` of `grid2_at_knot_raw` holds of the
code, the end knots are reachable -/
theorem axis_logs_libm : ∀ c ∈ rateClasses, c.isNull = true ∨ c.axisLogNumpy = false := by decide +kernel

/-- the vocabulary of `evaluate` parameter names is the one `isDTE` knows (a renamed parameter is noticed) -/
theorem eval_params_known : ∀ c ∈ rateClasses, ∀ p ∈ c.evalParams, p ∈ dteNames ++ otherNames := by decide +kernel

/-- **isotope → element**, all thirteen accessors (no deviant): every species argument reaches the repository as its
element and none as requested -/
theorem isotope_policy_table :
    ∀ a ∈ accessors, (a.getArgs.all fun x => match x with
        | Src.raw p => !a.species.contains p
        | _ => true) = true ∧ (a.species.all fun p => a.getArgs.contains (Src.elem p)) = true := fun a ha =>
  have ⟨_, _, _, _, hraw, helem, _⟩ := Cherab.Props.C07.uniform_unpack (policy_uniform a ha)
  ⟨hraw, helem⟩

/-- **wavelength of the requested species**, every photon accessor -/
theorem wavelength_policy_table :
    ∀ a ∈ accessors, (match a.wl with
      | none => true
      | some c => match c.species with
        | Src.raw p => a.species.contains p
        | _ => false) = true := fun a ha =>
  have ⟨_, _, _, _, _, _, hwl, _⟩ := Cherab.Props.C07.uniform_unpack (policy_uniform a ha)
  hwl

/-- the repository read receives the accessor's parameters in their declared order (a swapped donor / receiver or
beam / target would read another file) -/
theorem get_args_in_param_order :
    ∀ a ∈ accessors, (a.getArgs.map fun x => match x with
      | Src.raw p => p
      | Src.elem p => p
      | Src.other o => o) = a.params := by decide +kernel

/-- ion stage whose wavelength is looked up (as the code has it; the statement does not fix it, the correspondence
stores the wavelengths at these stages): the emitting ion of a CX line is the receiver one stage down, the beam atom
is neutral -/
theorem wavelength_charge_table :
    (accessors.filterMap fun a => a.wl.map fun c => (a.name, c.charge)) =
      [("beam_cx_pec", "receiver_charge - 1"), ("beam_emission_pec", "0"), ("impact_excitation_pec", "charge"),
       ("recombination_pec", "charge"), ("thermal_cx_pec", "receiver_charge - 1")] := rfl

/-- **missing-data clause on today's table**: every accessor raises `RuntimeError` on missing data, or returns its
Null rate when nulls were requested — `policy_uniform` fed into `missing_policy` -/
theorem missing_policy_table (a : Accessor) (ha : a ∈ accessors) (c : Call)
    (hmiss : c.stored.contains (keyOf a c) = false) :
    run nullSigs wavelengthPolicy a c =
      if c.nullRequested then Result.null a.nullInList else Result.raises "RuntimeError" :=
  Cherab.Props.C07.missing_policy nullSigs wavelengthPolicy a c (policy_uniform a ha) hmiss

/-- **wavelength clause on today's table**: every photon accessor converts with the requested species' own wavelength
when stored, the element's only for an isotope with the fall-back flag, and otherwise raises -/
theorem wavelength_requested_table (a : Accessor) (ha : a ∈ accessors) (wc : WlCall) (hwl : a.wl = some wc) (c : Call)
    (p : String) (sp : Sp) (hsp : wc.species = Src.raw p) (hf : findSp c p = some sp)
    (hpres : c.stored.contains (keyOf a c) = true) :
    run nullSigs wavelengthPolicy a c =
      if c.wlStored.contains sp.sym then Result.rate (keyOf a c) (some sp.sym) a.rateInList
      else if sp.isIsotope && c.wlFallback && c.wlStored.contains sp.elemSym then
        Result.rate (keyOf a c) (some sp.elemSym) a.rateInList
      else Result.raises "RuntimeError" :=
  Cherab.Props.C07.uniform_wavelength_requested nullSigs wavelengthPolicy a c wc p sp (policy_uniform a ha)
    wavelength_uniform hwl hsp hf hpres

/-- `thermal_cx_pec` with an isotope receiver converts with the isotope's own wavelength (since 1ec8bb9) -/
example :
    run nullSigs wavelengthPolicy acc_thermal_cx_pec
      ⟨[⟨"donor_element", "H", "H", false⟩, ⟨"receiver_element", "C13", "C", true⟩], [["H", "C"]], ["C13", "C"], false,
        false⟩ = Result.rate ["H", "C"] (some "C13") false := by
  decide +kernel

/-- non-vacuity: a concrete call of a uniform accessor with an isotope, data stored for the element, both
wavelengths stored: the isotope's wavelength converts the element's rates -/
example :
    run nullSigs wavelengthPolicy acc_impact_excitation_pec
      ⟨[⟨"ion", "D", "H", true⟩], [["H"], ["D"]], ["D", "H"], false, false⟩ = Result.rate ["H"] (some "D") false := by
  decide +kernel

/-- number of leading density / temperature / energy parameters per shape (as `Tab.dteCount`) -/
def dteCountOf : Shape → Nat
  | Shape.grid2 => 2
  | Shape.grid3 => 3
  | Shape.beam => 3
  | Shape.beamCX => 3

/-- positions ↔ names: in every *generated* class the density / temperature / energy parameters of `evaluate` are
exactly its first `dteCountOf shape` parameters, and exactly those are in the leading guard.  With
`Cherab.Props.C07.zero_guard_wins` (positions `< dteCount`): in every class of the current source a non-positive value of
any parameter named density / temperature / energy gives 0 whatever the other arguments are. -/
theorem guard_positions_table :
    ∀ m ∈ modelled, ∃ c ∈ rateClasses, c.name = m.name ∧ c.guarded = c.evalParams.take (dteCountOf m.shape)
      ∧ ((c.evalParams.take (dteCountOf m.shape)).all isDTE) = true
      ∧ ((c.evalParams.drop (dteCountOf m.shape)).all fun p => !isDTE p) = true := by decide +kernel

/-- the provider at HEAD as a function of the request (one species against a fixed wavelength store) -/
def wlRequest (wls : List String) (fb : Bool) (sp : Sp) : Option (Option String) :=
  wavelengthLookup wavelengthPolicy ⟨[sp], [], wls, false, fb⟩ (Src.raw sp.param)

/-- a provider that memoises `wavelength` under the full species is indistinguishable from the stateless one on every
history of requests -/
theorem wavelength_memo_by_species_transparent (wls : List String) (fb : Bool) (hist : List Sp) :
    Memo.answers (fun sp : Sp => sp) (wlRequest wls fb) [] hist = hist.map (wlRequest wls fb) :=
  Cherab.Props.C07.memo_transparent _ _ (fun _ _ h => by rw [h]) [] (fun _ he => nomatch he) hist

/-- … one that memoises under the element only (an `(atomic_number, charge, transition)` key) is not: carbon,
then carbon-13, both wavelengths stored — the isotope gets the element's wavelength -/
theorem wavelength_memo_by_element_unsound :
    Memo.answers (fun sp : Sp => sp.elemSym) (wlRequest ["C", "C13"] false) []
        [⟨"ion", "C", "C", false⟩, ⟨"ion", "C13", "C", true⟩] = [some (some "C"), some (some "C")]
      ∧ wlRequest ["C", "C13"] false ⟨"ion", "C13", "C", true⟩ = some (some "C13") := by decide +kernel

end Cherab.Props.C07Table
