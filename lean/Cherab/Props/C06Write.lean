/-
C06 — truncation atomicity of a single file write ("an update that is rejected … leaves previously stored keys
readable", at the level of `open(path,'w')` / `json.dump`, which `Model/Repository.lean` abstracts into one `FS.write`).

`run_of_safe`: a statement sequence that satisfies the syntactic criterion `safe` either returns normally with exactly the
new content in the file, or raises and leaves the file exactly as it was — for every oracle of raising statements, every
previous file state and every content.  `safe_write_all_or_nothing`, `safe_write_refines_fs_write` (the atomic `FS.write`
of the high-level model is a sound abstraction of a safe segment) and `writers_all_or_nothing_current` are read off it;
`dump_after_open_truncates` shows that the criterion is needed (the shape `add_beam_stopping_rate` once had destroys a
stored file); `writers_never_truncate_current` decides it on the table regenerated from the source on every run: all nine
writers are covered and safe.
-/
import Cherab.Model.RepoWrite
import Cherab.Lemmas.Repository
import Cherab.Gen.RepoWrites

namespace Cherab.Props.C06Write
open Cherab.RepoWrite

theorem runOpen_of_safe {α : Type} (fails : Nat → Bool) (new : α) (steps : List WStep) (i : Nat) (text : Bool)
    (h : safeOpen steps text = true) : runOpen fails new steps i text = (.valid new, true) := by
  cases steps with
  | nil => cases h
  | cons s rest =>
    cases s
    case dumpBuilt => rfl
    case writeText => simp only [safeOpen] at h; simp only [runOpen, h, if_true]
    all_goals cases h

theorem runPre_of_safe {α : Type} (fails : Nat → Bool) (d : Disk α) (new : α) (steps : List WStep) :
    ∀ (i : Nat) (text : Bool), safePre steps text = true →
      runPre fails d new steps i text = (.valid new, true) ∨ runPre fails d new steps i text = (d, false) := by
  induction steps with
  | nil => intro i text h; cases h
  | cons s rest ih =>
    intro i text h
    cases s
    case validate | serialise =>
      simp only [runPre]
      split
      · exact Or.inr rfl
      · exact ih _ _ h
    case mkdirs => exact ih _ _ h
    case openW => exact Or.inl (runOpen_of_safe fails new rest _ _ h)
    all_goals cases h

theorem run_of_safe {α : Type} (steps : List WStep) (fails : Nat → Bool) (d : Disk α) (new : α) (h : safe steps = true) :
    run steps fails d new = (.valid new, true) ∨ run steps fails d new = (d, false) :=
  runPre_of_safe fails d new steps 0 false h

/-- all-or-nothing for every safe statement sequence, every raising pattern, every previous state, every content -/
theorem safe_write_all_or_nothing {α : Type} (steps : List WStep) (fails : Nat → Bool) (d : Disk α) (new : α)
    (h : safe steps = true) :
    ((run steps fails d new).2 = true → (run steps fails d new).1 = .valid new) ∧
    ((run steps fails d new).2 = false → (run steps fails d new).1 = d) ∧
    (d ≠ .truncated → (run steps fails d new).1 ≠ .truncated) := by
  rcases run_of_safe steps fails d new h with e | e <;> rw [e] <;> simp

/-- the disk state of `p` in the file system of `Model/Repository.lean` (which has no truncated files) -/
def diskOf (fs : Cherab.Repository.FS) (p : Cherab.Repository.Path) : Disk Cherab.Repository.File :=
  match fs.read p with | some c => .valid c | none => .absent

/-- the atomic `FS.write` of `Model/Repository.lean` is what a safe segment does to the file system: with the disk state of
`p` read off `fs`, an accepted segment yields the state read off `fs.write p new`, a rejected one the state read off `fs` -/
theorem safe_write_refines_fs_write (steps : List WStep) (fails : Nat → Bool) (fs : Cherab.Repository.FS)
    (p : Cherab.Repository.Path) (new : Cherab.Repository.File) (h : safe steps = true) :
    run steps fails (diskOf fs p) new = (diskOf (fs.write p new) p, true) ∨
    run steps fails (diskOf fs p) new = (diskOf fs p, false) := by
  have hw : diskOf (fs.write p new) p = .valid new := by
    unfold diskOf; rw [Cherab.Repository.read_write, if_pos rfl]
  rw [hw]
  exact run_of_safe steps fails _ new h

/-- both disjuncts of `run_of_safe` occur -/
example : safe [.validate, .serialise, .validate, .mkdirs, .openW, .writeText] = true ∧
    run [.validate, .serialise, .validate, .mkdirs, .openW, .writeText] (fun i => i == 1) (.valid 7) 9 = (.valid 7, false) ∧
    run [.validate, .serialise, .validate, .mkdirs, .openW, .writeText] (fun _ => false) (.valid 7) 9 = (.valid 9, true) := by
  decide

/-- the criterion cannot be dropped: the pre-fix shape of `add_beam_stopping_rate` / `add_beam_population_rate`
(`json.dump(rate, f)` of the caller's dictionary after `open(path,'w')`) raises and leaves a stored file truncated -/
theorem dump_after_open_truncates :
    safe legacyDump = false ∧
    run legacyDump (fun i => i == 3) (.valid 7) 9 = ((.truncated : Disk Nat), false) := by
  decide

/-- serialising into the open file is harmless only when the dumped object cannot be rejected: the same sequence with
`dumpBuilt` is safe, and so is `dumps` before `open` + `write` -/
theorem dumps_before_open_is_safe :
    safe [.validate, .mkdirs, .openW, .dumpBuilt] = true ∧
    safe [.validate, .serialise, .mkdirs, .openW, .writeText] = true ∧
    safe [.validate, .mkdirs, .openW, .writeText] = false ∧
    safe [.validate, .mkdirs, .openW, .validate, .dumpBuilt] = false := by
  decide

/-- table obligation (regenerated from /repo on every run): every writer of the anchored files is in the table and no
statement that can raise stands between its `open(path,'w')` and the statement that fills the file -/
theorem writers_never_truncate_current :
    covers Cherab.Gen.RepoWrites.writeSegments = true ∧ allSafe Cherab.Gen.RepoWrites.writeSegments = true := by
  decide +kernel

/-- lifting the decided table to all inputs: every write of every writer in the generated table is all-or-nothing -/
theorem writers_all_or_nothing_current {α : Type} (name : String) (steps : List WStep)
    (hm : (name, steps) ∈ Cherab.Gen.RepoWrites.writeSegments) (fails : Nat → Bool) (d : Disk α) (new : α) :
    run steps fails d new = (.valid new, true) ∨ run steps fails d new = (d, false) :=
  run_of_safe steps fails d new (List.all_eq_true.mp writers_never_truncate_current.2 (name, steps) hm)

example : ("wavelength.py:update_wavelengths", [WStep.validate, .mkdirs, .openW, .dumpBuilt]) ∈
    Cherab.Gen.RepoWrites.writeSegments := by decide +kernel

end Cherab.Props.C06Write
