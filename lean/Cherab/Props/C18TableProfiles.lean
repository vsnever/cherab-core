import Cherab.Props.C18
import Cherab.Gen.LaserEdges
namespace Cherab.Props.C18Table
open Cherab.Laser Cherab.Props.C18 Cherab.Gen.LaserEdges

/-- every profile setter that writes a field read by `_function_changed` (or feeds `set_energy_density_function`)
rebuilds the energy-density function -/
theorem covered_profiles : profiles.all coveredB = true := by decide +kernel

end Cherab.Props.C18Table
