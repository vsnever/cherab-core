import Cherab.Gen.InstrumentEdges
import Cherab.Props.C16

/-!
# C16 — `init_total` on the tables generated from the current source

`init_total_*`: `__init__` runs to completion and every public getter / method can be called on the fresh instance
without meeting an attribute that was never assigned (dynamic form, `initTotalB`), and `__init__` assigns every
attribute any method of the class touches (static form, `initStaticB`) — in both forms except for attributes listed
in the table's `knownUninit`, which the translator fills from the *open* C16 entries of `known_findings.json`
(empty unless the main author lists one).  With an empty list this is the full statement, and `never_attr_error`
extends it to all histories.
-/
namespace Cherab.Props.C16
open Cherab.Instruments Cherab.Gen.InstrumentEdges

theorem init_total_all : ∀ t ∈ allTables, initTotalB t = true ∧ initStaticB t = true := by decide +kernel

theorem init_total_spectrometer : initTotalB spectrometer = true ∧ initStaticB spectrometer = true :=
  init_total_all _ (by simp [allTables])
theorem init_total_ct : initTotalB czernyTurnerSpectrometer = true ∧ initStaticB czernyTurnerSpectrometer = true :=
  init_total_all _ (by simp [allTables])
theorem init_total_polychromator : initTotalB polychromator = true ∧ initStaticB polychromator = true :=
  init_total_all _ (by simp [allTables])

/-- for all histories of calls, on every class (given no excused attribute) -/
theorem no_attr_error_all : ∀ t ∈ allTables, t.knownUninit = [] → ∀ calls : List Nat,
    ∀ r ∈ runCalls t (initState t) calls, ∀ a s, r ≠ .attrErr a s :=
  fun t ht hk calls => never_attr_error t (init_total_all t ht).2 hk calls

end Cherab.Props.C16
