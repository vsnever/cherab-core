import Cherab.Model.Groups
import Cherab.Gen.GroupTable
import Cherab.Props.C15

/-!
# C15 — the generated descriptor table is well-formed

`table_wf` is the obligation that ties the generic broadcast laws (`Cherab.Props.C15`) to the source in /repo:
every property object reachable on a group class is a correctly wired instance of the broadcast skeleton, or one of
the documented special shapes under its documented name.  It lives in its own module because it is *expected to
break* when the source contains a mis-wired property (then the check searches the implementation for the failing
assignment); the generic laws build and are audited independently.
Also here: the slice flag of every class (`classes_accept_slices`), and the refused-operation and scene theorems of
`Cherab.Props.C15` at the generated table.
-/
namespace Cherab.Props.C15Table
open Cherab.Groups Cherab.Gen.GroupTable

/-- every (class, attribute) descriptor generated from /repo is admissible -/
theorem table_wf : ∀ d ∈ table, d.admissible table = true :=
  List.all_eq_true.mp (by decide +kernel : table.all (fun d => d.admissible table) = true)

/-- every group class hands slice keys to its member container ("retrievable by … slice"): the hypothesis of
`Cherab.Props.C15.getitem_slice`.  Generated from `__getitem__` of base.py / bolometry.py. -/
theorem classes_accept_slices : ∀ c ∈ classes, c.sliceKeys = true := by decide

/-- the names with a documented shape of their own -/
def specialNames : List String := ["names", "pipelines", "targets", "observers", "sight_lines", "foil_detectors"]

/-- hence every other group-level attribute of every class satisfies the hypothesis of `Cherab.Props.C15.wf_broadcast_laws`,
`history_last_write_wins`, … -/
theorem table_broadcast_wf : ∀ d ∈ table, d.name ∉ specialNames → d.wfBroadcast = true :=
  fun d hd hn => wfBroadcast_of_admissible (table_wf d hd) hn

/-- and the documented shapes sit under their documented names -/
theorem table_special_wf : ∀ d ∈ table,
    (d.name = "names" → d.wfSeqOnly = true) ∧ (d.name = "pipelines" → d.wfLenOnly = true) ∧
    (d.name = "targets" → d.wfAllSeq = true) := by
  intro d hd
  have h := table_wf d hd
  refine ⟨?_, ?_, ?_⟩ <;> intro hn <;> simpa [Descriptor.admissible, hn] using h

open Cherab.Props.C15 in
/-- for every group class of /repo, every world and every operation of the group API whose values the members accept:
a refused operation (wrong length, wrong container, wrong-typed element anywhere in a member list, wrong-typed argument
of the add method, scalar where only a sequence is allowed, …) leaves the world exactly as it was -/
theorem generated_rejected_unchanged (ci : ClassInfo) (w : World) (op : Op) (hacc : OpAcceptable table ci op)
    (he : (step table ci w op).2 ≠ none) : (step table ci w op).1 = w :=
  step_rejected_unchanged table table_wf ci w op hacc he

open Cherab.Props.C15 in
/-- for every group class of /repo and every history on one group of a scene with several groups: every member of every
group keeps that group as scene-graph parent (so no observer is in two groups), as long as the history does not adopt
members of another group -/
theorem generated_scene_inv (ci : ClassInfo) (ops : List Op) (s : Scene) (hi : s.Inv ci)
    (hforeign : ∀ op ∈ ops, ∀ u ∈ adoptees op, ∀ g ∈ s.others, u ∉ g.2) :
    (ops.foldl (fun s op => s.step table ci op) s).Inv ci :=
  scene_inv_run table table_wf ci ops s hi hforeign

end Cherab.Props.C15Table
