import Cherab.Props.C06
import Cherab.Props.C06Table
import Cherab.Props.C06TableAdd
import Cherab.Props.C06TableRoot

namespace Cherab.Props.C06Table
open Cherab.Repository Cherab.Gen.RepoPaths Cherab.Props.C06

/-- the tables of the current source satisfy the hypothesis `T.wellFormed` of the theorems of `Props/C06.lean` -/
theorem tables_wellformed : tables.wellFormed = true := by
  simp only [Tables.wellFormed, add_matches_update, get_matches_update, templates_shaped, templates_disjoint,
    all_paths_under_root, Bool.and_self]

/-- hence `refines_kv` for the repository functions of /repo's current source -/
theorem refines_kv_current (R : Path) (ops : List Op) (hT : ∀ op ∈ ops, op.Typed tables ∧ resolve op.root = R)
    (fs : FS) (k : Key) (hk : k.ok = true) :
    absView tables R (runOps tables ops fs).at k = specRun tables ops (absView tables R fs.at) k :=
  refines_kv tables tables_wellformed R ops hT fs k hk

end Cherab.Props.C06Table
