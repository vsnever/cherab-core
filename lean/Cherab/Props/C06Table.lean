import Cherab.Gen.RepoPaths

/-!
# C06 — obligations on the tables generated from /repo's current source (`Cherab/Gen/RepoPaths.lean`)

Structural facts, by `decide` over the complete tables: every getter reads where its family writes, every path template
has the components its family's key demands, no two families can produce the same path.
(`add_matches_update` and `all_paths_under_root` live in `C06TableAdd.lean` / `C06TableRoot.lean`, the conjunction
`tables_wellformed` — the hypothesis `T.wellFormed` of the theorems of `Props/C06.lean` — in `C06TableAll.lean`, so that a
table that violates one of them does not hide the others.  Outside `wellFormed`: `pec_reads_passed_data` in
`C06TablePec.lean`, `encode_is_str_lower` in `C06TableEnc.lean`.)
-/
namespace Cherab.Props.C06Table
open Cherab.Gen.RepoPaths

/-- every `get_z` reads the path template the family it is named after writes with, with the class it is named after -/
theorem get_matches_update : tables.getMatches = true := by decide +kernel

/-- every path template has exactly the components the family's key demands, and the extension `.json` -/
theorem templates_shaped : tables.shapesOk = true := by decide +kernel

/-- no two families can produce the same path -/
theorem templates_disjoint : tables.disjointOk = true := by decide +kernel

end Cherab.Props.C06Table
