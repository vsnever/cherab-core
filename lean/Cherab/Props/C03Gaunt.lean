import Cherab.Model.BremsConfig
import Cherab.Gen.BremsFlags
import Mathlib.Data.List.Forall2

/-!
C03 — "…bremsstrahlung with the **provider's** Gaunt factor": which Gaunt factor a `Bremsstrahlung` instance
evaluates with after an arbitrary history of `gaunt_factor = …`, `atomic_data = …`, `plasma = …`, plasma change
notifications and `emission` calls.

Documented (class docstring): "gaunt_factor: … If not provided, the `atomic_data` is used."  The documented
configuration is the triple (plasma attached?, current provider, last assigned user Gaunt factor).
-/
namespace Cherab.Passive

/-- the documented configuration: what the user last assigned -/
structure BremsDoc where
  plasma : Bool
  atomic : Option Nat
  user : Option Nat
  deriving DecidableEq, Repr

def docStep (d : BremsDoc) : BremsOp → BremsDoc
  | .setGaunt v => { d with user := v }
  | .setAtomic a => { d with atomic := a }
  | .setPlasma => { d with plasma := true }
  | .change => d
  | .eval => d

/-- documented outcome of an evaluation: the user's Gaunt factor if one is assigned, else the current provider's -/
def docEval (d : BremsDoc) : BremsOut :=
  if !d.plasma then .errNoPlasma
  else match d.user with
    | some g => .used (.user g)
    | none => match d.atomic with
      | none => .errNoAtomic
      | some a => .used (.provider a)

def docOut (d : BremsDoc) : BremsOp → BremsOut
  | .eval => docEval d
  | _ => .silent

def docRun : BremsDoc → List BremsOp → List BremsOut
  | _, [] => []
  | d, o :: os => docOut d o :: docRun (docStep d o) os

/-- simulation relation between the instance and the documented configuration -/
def CfgRel (s : BremsCfg) (d : BremsDoc) : Prop :=
  s.plasma = d.plasma ∧ s.atomic = d.atomic ∧ s.userProvided = d.user.isSome ∧
  (∀ g, d.user = some g → s.gaunt = some (.user g)) ∧
  (d.user = none → s.gaunt = none ∨ ∃ a, s.gaunt = some (.provider a) ∧ s.atomic = some a ∧ s.loaded = true) ∧
  (s.loaded = true → s.plasma = true)

/-- the state the code can be in but must not evaluate in: arrays cached, no Gaunt factor held -/
def CfgBad (s : BremsCfg) : Prop := s.loaded = true ∧ s.gaunt = none

theorem cfgInit_rel (p : Bool) (a g : Option Nat) : CfgRel (cfgInit p a g) ⟨p, a, g⟩ ∧ ¬ CfgBad (cfgInit p a g) := by
  cases g <;> simp [cfgInit, cfgChange, cfgSetGaunt, CfgRel, CfgBad]

/-- `_change()` on `s'` = `s` with plasma / provider updated, or `s` itself: a user-assigned Gaunt factor survives it, a
fetched one is dropped together with the cached arrays -/
theorem cfgChange_rel {s s' : BremsCfg} {d d' : BremsDoc} (h : CfgRel s d) (hp : s'.plasma = d'.plasma)
    (ha : s'.atomic = d'.atomic) (hg : s'.gaunt = s.gaunt) (hu : s'.userProvided = s.userProvided)
    (hd : d'.user = d.user) : CfgRel (cfgChange s') d' := by
  obtain ⟨-, -, h3, h4, -, -⟩ := h
  cases hdu : d.user with
  | none => simp [cfgChange, CfgRel, hp, ha, hu, hd, h3, hdu]
  | some g => simp [cfgChange, CfgRel, hp, ha, hg, hu, hd, h3, hdu, h4 g hdu]

theorem cfgSetGaunt_rel {s : BremsCfg} {d : BremsDoc} {v : Option Nat} (h : CfgRel s d) :
    CfgRel (cfgSetGaunt s v) { d with user := v } := by
  obtain ⟨h1, h2, -, -, -, h6⟩ := h
  cases v <;> simpa [cfgSetGaunt, CfgRel, h1, h2] using h6

/-! `cfgEval` on the four kinds of state the relation allows -/

theorem cfgEval_held {gg : Bool} {s : BremsCfg} {g : GauntSrc} (hp : s.plasma = true) (hg : s.gaunt = some g) :
    cfgEval gg s = ({ s with loaded := true }, .used g) := by
  obtain ⟨sp, sa, sg, su, sl⟩ := s
  subst hp hg
  cases sl <;> cases gg <;> rfl

theorem cfgEval_noPlasma {gg : Bool} {s : BremsCfg} (hp : s.plasma = false) (hl : s.loaded = false) :
    cfgEval gg s = (s, .errNoPlasma) := by
  simp [cfgEval, cfgPopulate, hp, hl]

theorem cfgEval_populate {gg : Bool} {s : BremsCfg} {oa : Option Nat} (hp : s.plasma = true) (hg : s.gaunt = none)
    (hrun : s.loaded = false ∨ gg = true) (ha : s.atomic = oa) :
    cfgEval gg s = match oa with
      | none => (s, .errNoAtomic)
      | some a => ({ s with gaunt := some (.provider a), loaded := true }, .used (.provider a)) := by
  obtain ⟨sp, sa, sg, su, sl⟩ := s
  subst hp hg ha
  rcases hrun with rfl | rfl <;> cases sa <;> simp [cfgEval, cfgPopulate]

theorem cfgEval_bad {s : BremsCfg} (h : CfgBad s) : cfgEval false s = (s, .nullDeref) := by
  simp [cfgEval, h.1, h.2]

theorem cfgEval_rel (gg : Bool) {s : BremsCfg} {d : BremsDoc} (h : CfgRel s d) :
    CfgRel (cfgEval gg s).1 d ∧
    ((cfgEval gg s).2 = docEval d ∨ ((cfgEval gg s).2 = .nullDeref ∧ CfgBad s ∧ gg = false)) := by
  obtain ⟨h1, h2, h3, h4, h5, h6⟩ := id h
  -- the documented outcome in terms of the state: its cases then reduce along with those of the state
  rw [docEval, ← h1, ← h2]
  cases hp : s.plasma with
  | false =>
    have hl : s.loaded = false := Bool.eq_false_iff.2 fun hl => by simp [h6 hl] at hp
    rw [cfgEval_noPlasma hp hl]
    exact ⟨h, Or.inl rfl⟩
  | true =>
    have hkeep : CfgRel { s with loaded := true } d := by
      refine ⟨h1, h2, h3, h4, fun hu => ?_, fun _ => hp⟩
      rcases h5 hu with hg | ⟨a, hg, ha, -⟩
      exacts [Or.inl hg, Or.inr ⟨a, hg, ha, rfl⟩]
    cases hu : d.user with
    | some g =>
      rw [cfgEval_held hp (h4 g hu)]
      exact ⟨hkeep, Or.inl rfl⟩
    | none =>
      rcases h5 hu with hg | ⟨a, hg, ha, -⟩
      · by_cases hrun : s.loaded = false ∨ gg = true
        · cases ha : s.atomic with
          | none =>
            rw [cfgEval_populate hp hg hrun ha]
            exact ⟨h, Or.inl rfl⟩
          | some a =>
            rw [cfgEval_populate hp hg hrun ha]
            exact ⟨⟨h1, h2, h3, by simp [hu], fun _ => Or.inr ⟨a, rfl, ha, rfl⟩, fun _ => hp⟩,
              Or.inl rfl⟩
        · -- arrays cached, no Gaunt factor, and the guard does not look at the Gaunt factor
          simp only [not_or, Bool.not_eq_false, Bool.not_eq_true] at hrun
          obtain ⟨hl, rfl⟩ := hrun
          rw [cfgEval_bad ⟨hl, hg⟩]
          exact ⟨h, Or.inr ⟨rfl, ⟨hl, hg⟩, rfl⟩⟩
      · rw [cfgEval_held hp hg]
        exact ⟨hkeep, Or.inl (by rw [ha]; rfl)⟩

/-- one operation: the relation is kept by **every** operation, and the output is the documented one unless the
operation is an `emission` in the bad state, where it is a call through `None` -/
theorem cfgStep_rel (gg : Bool) (s : BremsCfg) (d : BremsDoc) (op : BremsOp) (h : CfgRel s d) :
    CfgRel (cfgStep gg s op).1 (docStep d op) ∧
    ((cfgStep gg s op).2 = docOut d op ∨
      ((cfgStep gg s op).2 = .nullDeref ∧ op = .eval ∧ CfgBad s ∧ gg = false)) := by
  cases op with
  | setGaunt v => exact ⟨cfgSetGaunt_rel h, Or.inl rfl⟩
  | setAtomic a => exact ⟨cfgChange_rel h h.1 rfl rfl rfl rfl, Or.inl rfl⟩
  | setPlasma => exact ⟨cfgChange_rel h rfl h.2.1 rfl rfl rfl, Or.inl rfl⟩
  | change => exact ⟨cfgChange_rel h h.1 h.2.1 rfl rfl rfl, Or.inl rfl⟩
  | eval =>
    obtain ⟨hr, ho⟩ := cfgEval_rel gg h
    exact ⟨hr, ho.imp id fun ⟨a, b, c⟩ => ⟨a, rfl, b, c⟩⟩

/-- `_change()` (any plasma / provider change, also after an un-assignment) repairs the instance: the bad state does not
survive a change notification. -/
theorem brems_gaunt_change_repairs (s : BremsCfg) : ¬ CfgBad (cfgChange s) := by
  simp [cfgChange, CfgBad]

/-- the bad state is entered only by un-assigning the Gaunt factor (`gaunt_factor = None`) -/
theorem cfgStep_keeps_good (gg : Bool) (s : BremsCfg) (op : BremsOp) (hg : ¬ CfgBad s)
    (hop : op ≠ .setGaunt none) : ¬ CfgBad (cfgStep gg s op).1 := by
  cases op with
  | setGaunt v =>
    cases v with
    | none => exact absurd rfl hop
    | some g => simp [cfgStep, cfgSetGaunt, CfgBad]
  | setAtomic a => exact brems_gaunt_change_repairs _
  | setPlasma => exact brems_gaunt_change_repairs _
  | change => exact brems_gaunt_change_repairs _
  | eval =>
    obtain ⟨sp, sa, sg, su, sl⟩ := s
    cases sg with
    | some g => cases sl <;> cases sp <;> simp [cfgStep, cfgEval, cfgPopulate, CfgBad]
    | none =>
      -- not bad and nothing held: nothing cached either, so `_populate_cache` runs, and fetches or raises
      have hl : sl = false := by simpa [CfgBad] using hg
      subst hl
      cases sp <;> cases sa <;> simp [cfgStep, cfgEval, cfgPopulate, CfgBad]

theorem cfgRun_rel (gg : Bool) (ops : List BremsOp) (s : BremsCfg) (d : BremsDoc) (h : CfgRel s d) :
    List.Forall₂ (fun o e => o = e ∨ (o = BremsOut.nullDeref ∧ gg = false)) (cfgRun gg s ops) (docRun d ops) := by
  induction ops generalizing s d with
  | nil => exact List.Forall₂.nil
  | cons op os ih =>
    obtain ⟨hr, ho⟩ := cfgStep_rel gg s d op h
    exact List.Forall₂.cons (ho.imp id fun h' => ⟨h'.1, h'.2.2.2⟩) (ih _ _ hr)

/-- **All histories**: after any sequence of operations on an instance constructed with any arguments, every output is
the documented one — the user's Gaunt factor if one is assigned, otherwise the *current* provider's, the two
RuntimeErrors in the documented order — or it is a call through `None`. -/
theorem brems_gaunt_selection_any_history (gg : Bool) (ops : List BremsOp) (s : BremsCfg) (d : BremsDoc) (h : CfgRel s d) :
    List.Forall₂ (fun o e => o = e ∨ o = BremsOut.nullDeref) (cfgRun gg s ops) (docRun d ops) :=
  (cfgRun_rel gg ops s d h).imp fun _ _ h' => h'.imp id And.left

/-- **Histories that never un-assign the Gaunt factor** (`gaunt_factor = None` does not occur; assigning user factors,
swapping providers and plasmas, change notifications and evaluations in any order and number do): the outputs are
exactly the documented ones. -/
theorem brems_gaunt_selection (gg : Bool) (ops : List BremsOp) (hops : ∀ op ∈ ops, op ≠ BremsOp.setGaunt none)
    (s : BremsCfg) (d : BremsDoc) (h : CfgRel s d) (hg : ¬ CfgBad s) :
    cfgRun gg s ops = docRun d ops := by
  induction ops generalizing s d with
  | nil => rfl
  | cons op os ih =>
    obtain ⟨hr, ho⟩ := cfgStep_rel gg s d op h
    -- the state is not bad: the output is the documented one, and the next state is not bad either
    exact congrArg₂ List.cons (ho.resolve_right fun h' => hg h'.2.2.1)
      (ih (fun o ho => hops o (List.mem_cons_of_mem _ ho)) _ _ hr
        (cfgStep_keeps_good gg s op hg (hops op List.mem_cons_self)))

/-- the same from the constructor, for every constructor argument triple -/
theorem brems_gaunt_selection_from_init (gg : Bool) (p : Bool) (a g : Option Nat) (ops : List BremsOp)
    (hops : ∀ op ∈ ops, op ≠ BremsOp.setGaunt none) :
    cfgRun gg (cfgInit p a g) ops = docRun ⟨p, a, g⟩ ops :=
  brems_gaunt_selection gg ops hops _ _ (cfgInit_rel p a g).1 (cfgInit_rel p a g).2

/-- **ALL histories, guard that also tests `gaunt_factor is None`** (the source since commit 7210ef7): no side condition —
`gaunt_factor = None` at any time means "the current provider's factor from the next evaluation on". -/
theorem brems_gaunt_selection_guarded (ops : List BremsOp) (s : BremsCfg) (d : BremsDoc) (h : CfgRel s d) :
    cfgRun true s ops = docRun d ops :=
  List.forall₂_eq_eq_eq ▸ (cfgRun_rel true ops s d h).imp fun _ _ h' => h'.resolve_right fun h'' => nomatch h''.2

/-- the flag read from bremsstrahlung.pyx on this run says the guard tests the Gaunt factor -/
theorem brems_guard_tests_gaunt_current_source : Cherab.Gen.BremsFlags.emissionGuardTestsGaunt = true := by decide

/-- **The property clause on the current source**: for every constructor argument triple and EVERY history of
assignments (incl. `gaunt_factor = None`), provider / plasma swaps, change notifications and evaluations, each evaluation
uses the user's Gaunt factor if one is assigned and the current provider's otherwise. -/
theorem brems_gaunt_selection_current_source (p : Bool) (a g : Option Nat) (ops : List BremsOp) :
    cfgRun Cherab.Gen.BremsFlags.emissionGuardTestsGaunt (cfgInit p a g) ops = docRun ⟨p, a, g⟩ ops := by
  rw [brems_guard_tests_gaunt_current_source]
  exact brems_gaunt_selection_guarded ops _ _ (cfgInit_rel p a g).1

example : cfgRun Cherab.Gen.BremsFlags.emissionGuardTestsGaunt (cfgInit true (some 1) none)
    [.eval, .setGaunt none, .eval, .setGaunt (some 4), .eval, .setGaunt none, .setAtomic (some 2), .eval] =
    [.used (.provider 1), .silent, .used (.provider 1), .silent, .used (.user 4), .silent, .silent,
      .used (.provider 2)] := by decide

example : cfgRun false (cfgInit true (some 1) none)
    [.eval, .setGaunt (some 7), .eval, .setAtomic (some 2), .eval, .change, .eval] =
    [.used (.provider 1), .silent, .used (.user 7), .silent, .used (.user 7), .silent, .used (.user 7)] := by decide

example : cfgRun false (cfgInit false none none) [.eval, .setPlasma, .eval, .setAtomic (some 3), .eval] =
    [.errNoPlasma, .silent, .errNoAtomic, .silent, .used (.provider 3)] := by decide

/-- **With the guard that tests only `species_charge is None` (the source before commit 7210ef7) the statement without
the side condition is false** (witness): construct with a
provider and no user Gaunt factor, evaluate once (cache populated, provider factor fetched), assign
`gaunt_factor = None` (documented meaning: "use the atomic data"), evaluate again: the model calls through `None`,
the documented outcome is the provider's Gaunt factor.  Replayed on the implementation before the fix: segmentation fault. -/
theorem brems_gaunt_unset_after_use_null_deref :
    cfgRun false (cfgInit true (some 1) none) [.eval, .setGaunt none, .eval]
      = [.used (.provider 1), .silent, .nullDeref] ∧
    docRun ⟨true, some 1, none⟩ [.eval, .setGaunt none, .eval]
      = [.used (.provider 1), .silent, .used (.provider 1)] := by decide

end Cherab.Passive
