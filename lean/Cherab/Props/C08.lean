import Cherab.Lemmas.Adf15
import Cherab.Lemmas.AdfText
import Mathlib.Data.List.Nodup

/-!
# C08 — ADF parsers return the file's numbers under the documented conventions

Round trips `parse (render t) = expected t` per format (ADF21/22, ADF12, ADF11, ADF15) over the abstract line kinds and
their canonical views, with the rejection theorems beside them; axis order and the ADF11 charge convention; the generated
tables of `Gen/AdfLex.lean` pinned to the model's transcriptions; fixed-column slicing and blank splitting of the text
layer; `install_files` dispatch; `_locate_adas_file`.  "Well-formed file" means a file produced by `render*`.
-/
namespace Cherab.Props.C08
set_option linter.unusedSectionVars false
open Cherab.Adf

variable {α ℓ : Type}

/-- utility.readvalues: reading `n` values from the lines produced by writing `n` values `p` per line returns them in
order and leaves the stream exactly after the last of those lines — for every `n`, multiples of `p` or not. -/
theorem readvalues_chunks (field : ℓ → Nat → Option α) (mk : List α → ℓ) (hf : ∀ xs k, field (mk xs) k = xs[k]?)
    (p : Nat) (hp : 0 < p) (xs : List α) (rest : List ℓ) :
    readvalues field xs.length p ((chunk p xs).map mk ++ rest) = .ok (xs, rest) :=
  readvalues_of_chunks hf p hp xs rfl rest

/-! ## ADF21 / ADF22 -/

theorem field2x (xs : List α) (k : Nat) : (lexK2x (α := α)).field (.vals xs) k = xs[k]? := rfl

theorem readCols_cols {β : Type} (neb : Nat) (f : β → List α) (rest : List (K2x α)) :
    ∀ (l : List β) {n : Nat}, l.length = n → (∀ j ∈ l, (f j).length = neb) →
      readCols (lexK2x (α := α)).field neb n (l.flatMap (fun j => (chunk 8 (f j)).map .vals) ++ rest) = .ok (l.map f, rest) := by
  intro l
  induction l with
  | nil => intro n hn _; subst hn; rfl
  | cons j l ih =>
    intro n hn h
    subst hn
    obtain ⟨hj, hl⟩ := List.forall_mem_cons.mp h
    simp only [List.length_cons, List.flatMap_cons, List.append_assoc, readCols, List.map_cons,
      readvalues_of_chunks field2x 8 (by omega) (f j) hj, ih rfl hl]

theorem transpose_cols (neb ndt : Nat) (sv : Nat → Nat → α) :
    ((List.range neb).map fun i => ((List.range ndt).map fun j => (List.range neb).map fun i => sv i j).filterMap fun c => c[i]?)
      = tabulate neb ndt sv := by
  simp only [List.filterMap_map]
  exact tabulate_of_lookup neb ndt sv _ fun i hi j _ => by simp [hi]

section views2x
variable (z n a b : Nat) (s sp tr e d : α) (xs : List α)
@[simp] theorem zt_head : (lexK2x (α := α)).zt (.head z s sp) = some z := rfl
@[simp] theorem svref_head : (lexK2x (α := α)).svref (.head z s sp) = some s := rfl
@[simp] theorem n1_dims : (lexK2x (α := α)).n1 (.dims a b tr) = some a := rfl
@[simp] theorem n2_dims : (lexK2x (α := α)).n2 (.dims a b tr) = some b := rfl
@[simp] theorem tref_dims : (lexK2x (α := α)).tref (.dims a b tr) = some tr := rfl
@[simp] theorem n1_tdims : (lexK2x (α := α)).n1 (.tdims n e d) = some n := rfl
@[simp] theorem eref_tdims : (lexK2x (α := α)).eref (.tdims n e d) = some e := rfl
@[simp] theorem dref_tdims : (lexK2x (α := α)).dref (.tdims n e d) = some d := rfl
end views2x

/-- ADF21/ADF22: parsing the rendered file returns exactly the file's tables (section order, `sen[i_e][i_n]` axis
order), for all grid sizes. -/
theorem adf2x_roundtrip (t : Tab2x α) : parse2x lexK2x (render2x t) = .ok (expected2x t) := by
  have rv := fun (xs : List α) {n : Nat} (hn : xs.length = n) (rest : List (K2x α)) =>
    readvalues_of_chunks field2x 8 (by omega) xs hn rest
  have rc := fun (rest : List (K2x α)) =>
    readCols_cols t.eb.length (fun j => (List.range t.eb.length).map fun i => t.sv i j) rest (List.range t.dt.length)
      List.length_range fun j _ => by rw [List.length_map, List.length_range]
  -- with `[]` appended every section, the last too, is followed by a rest of the file
  rw [← List.append_nil (render2x t)]
  simp only [parse2x, render2x, expected2x, List.append_assoc, List.cons_append, List.nil_append, needLine, bind, Except.bind,
    opt, List.tail_cons, pure, Except.pure, zt_head, svref_head, n1_dims, n2_dims, tref_dims, n1_tdims, eref_tdims, dref_tdims,
    rv, rc, List.length_map, List.length_range, transpose_cols]

/-- non-vacuity for ADF21/22: 2 energies × 3 densities, 1 temperature -/
def sample2x : Tab2x Nat where
  zt := 1
  spec := 0
  svref := 9
  tref := 8
  eref := 7
  dref := 6
  eb := [1, 2]
  dt := [3, 4, 5]
  tt := [10]
  svt := fun _ => 11
  sv := fun i j => 100 * i + j

example : (parse2x (lexK2x (α := Nat)) (render2x sample2x)).toOption.map (·.sen) = some [[0, 1, 2], [100, 101, 102]] := by decide +kernel

/-! ## ADF12 -/

theorem field12 (xs : List α) (k : Nat) : (lexK12 (α := α)).field (.vals xs) k = xs[k]? := rfl
theorem ifield12 (xs : List Nat) (k : Nat) : (lexK12 (α := α)).ifield (.ints xs) k = xs[k]? := rfl

theorem length_padTo (n : Nat) (pad : α) (xs : List α) (h : xs.length ≤ n) : (padTo n pad xs).length = n := by
  simp [padTo]; omega

theorem take_padTo (n : Nat) (pad : α) (xs : List α) {m : Nat} (h : xs.length = m) : (padTo n pad xs).take m = xs := by
  subst h; simp [padTo]

theorem sec_read (n : Nat) (pad : α) (xs : List α) (h : xs.length ≤ n) (rest : List (K12 α)) :
    readvalues (lexK12 (α := α)).field n 6 (section12 n pad xs ++ rest) = .ok (padTo n pad xs, rest) :=
  readvalues_of_chunks field12 6 (by omega) _ (length_padTo n pad xs h) rest

/-- well-formed ADF12 block: five reference values, section lengths within the fixed 24/12/24/12/12 layout -/
structure WF12 (b : Blk12 α) : Prop where
  refs : b.refs.length = 5
  ener : b.ener.length ≤ 24
  tiev : b.tiev.length ≤ 12
  densi : b.densi.length ≤ 24
  zeff : b.zeff.length ≤ 12
  bmag : b.bmag.length ≤ 12

theorem parseBlock12_render (pad : α) (b : Blk12 α) (h : WF12 b) (rest : List (K12 α)) :
    parseBlock12 lexK12 (renderBlk12 pad b ++ rest) = .ok (expectedBlk12 b, rest) := by
  obtain ⟨hr, h1, h2, h3, h4, h5⟩ := h
  obtain ⟨r0, r1, r2, r3, r4, hrefs⟩ : ∃ r0 r1 r2 r3 r4, b.refs = [r0, r1, r2, r3, r4] := by
    match hb : b.refs, hr with
    | [r0, r1, r2, r3, r4], _ => exact ⟨r0, r1, r2, r3, r4, rfl⟩
  have htrans : (lexK12 (α := α)).trans (.hdr b.up b.lo) = some (b.up, b.lo) := rfl
  have hq := readvalues_line field12 6 [b.qefref] 1 rfl (by omega) (by omega)
  have hrefsLine := readvalues_line field12 6 [r0, r1, r2, r3, r4] 5 rfl (by omega) (by omega)
  have hcounts := fun (ns : List Nat) (h : ns.length = 5) =>
    readvalues_line (ifield12 (α := α)) 6 ns 5 h (by omega) (by omega)
  -- the ten padded sections are read back whole by `sec_read` and cut to their counts by `take_padTo`
  simp only [parseBlock12, renderBlk12, expectedBlk12, hrefs, List.append_assoc, List.cons_append, List.nil_append, needLine,
    bind, Except.bind, opt, pure, Except.pure, htrans, hq, hrefsLine, hcounts, List.length_cons, List.length_nil,
    List.getElem?_cons_zero, sec_read, take_padTo, List.length_map, List.length_range, h1, h2, h3, h4, h5,
    List.getD_cons_zero, List.getD_cons_succ]

theorem parseBlocks12_blocks (pad : α) (m : Nat) (rest : List (K12 α)) :
    ∀ (bs : List (Blk12 α)), (∀ b ∈ bs, WF12 b) → ∀ d,
      parseBlocks12 lexK12 (bs.length + m) (bs.flatMap (renderBlk12 pad) ++ rest) d
        = parseBlocks12 lexK12 m rest ((bs.map expectedBlk12).foldl (fun d kv => dictSet d kv.1 kv.2) d) := by
  intro bs
  induction bs with
  | nil => intro _ d; rw [List.length_nil, Nat.zero_add]; rfl
  | cons b bs ih =>
    intro h d
    obtain ⟨hb, hbs⟩ := List.forall_mem_cons.mp h
    rw [List.length_cons, Nat.succ_add, List.flatMap_cons, List.append_assoc, parseBlocks12, parseBlock12_render pad b hb]
    exact ih hbs _

/-- ADF12: for any number of blocks with section lengths within the fixed 24/12/24/12/12 layout, the parser returns
every block's tables truncated to the stated counts, keyed by its transition (a repeated transition overwrites, as in
a Python dict). -/
theorem adf12_roundtrip (pad : α) (bs : List (Blk12 α)) (h : ∀ b ∈ bs, WF12 b) :
    parse12 lexK12 (render12 pad bs) = .ok (dictOfList (bs.map expectedBlk12)) := by
  have := parseBlocks12_blocks pad 0 [] bs h []
  rwa [List.append_nil] at this

/-- ADF12: a file whose first line announces more blocks than it holds is rejected (`ValueError` from the empty
header line), not returned short -/
theorem adf12_absent_block_rejected (pad : α) (bs : List (Blk12 α)) (h : ∀ b ∈ bs, WF12 b) (k : Nat) (hk : bs.length < k) :
    parse12 lexK12 (.count k :: bs.flatMap (renderBlk12 pad)) = .error .value := by
  obtain ⟨m, rfl⟩ : ∃ m, k = bs.length + (m + 1) := ⟨k - bs.length - 1, by omega⟩
  have := parseBlocks12_blocks pad (m + 1) [] bs h []
  rwa [List.append_nil] at this

/-- non-vacuity: an ADF12 block with 7 energies (not a multiple of 6), parsed by evaluation -/
def sample12 : Blk12 Nat where
  up := 8
  lo := 7
  qefref := 1
  refs := [2, 3, 4, 5, 6]
  ener := [10, 11, 12, 13, 14, 15, 16]
  qener := fun i => 100 + i
  tiev := [20]
  qtiev := fun i => 200 + i
  densi := [30, 31]
  qdensi := fun i => 300 + i
  zeff := [40]
  qzeff := fun _ => 400
  bmag := [50]
  qbmag := fun _ => 500

example : parse12 (lexK12 (α := Nat)) (render12 0 [sample12])
    = .ok [((8, 7), { eb := [10, 11, 12, 13, 14, 15, 16], ti := [20], ni := [30, 31], z := [40], b := [50],
                      qeb := [100, 101, 102, 103, 104, 105, 106], qti := [200], qni := [300, 301], qz := [400], qb := [500],
                      ebref := 2, tiref := 3, niref := 4, zref := 5, bref := 6, qref := 1 })] := by decide +kernel

example : WF12 sample12 := ⟨rfl, by decide, by decide, by decide, by decide, by decide⟩

/-! ## ADF11 -/
section adf11
variable {ν : Type} [DecidableEq ν] (neg : α → Bool)

section views11
variable (n : Nat) (z : Option Nat) (k : Nat) (xs : List α) (hh : Hdr11 ν)
@[simp] theorem v11_cdash : (lexK11 (ν := ν) neg).cdash (.dashes n z) = true := rfl
@[simp] theorem v11_cdash_nums : (lexK11 (ν := ν) neg).cdash (.nums xs) = false := rfl
@[simp] theorem v11_c1dash0 : (lexK11 (ν := ν) neg).c1dash (.dashes 0 z) = false := rfl
@[simp] theorem v11_c1dash1 : (lexK11 (ν := ν) neg).c1dash (.dashes 1 z) = true := rfl
@[simp] theorem v11_c01dash0 : (lexK11 (ν := ν) neg).c01dash (.dashes 0 z) = true := rfl
@[simp] theorem v11_c01dash1 : (lexK11 (ν := ν) neg).c01dash (.dashes 1 z) = true := rfl
@[simp] theorem v11_dash0 : (lexK11 (ν := ν) neg).dash (.dashes 0 z) = true := rfl
@[simp] theorem v11_dash_nums : (lexK11 (ν := ν) neg).dash (.nums xs) = false := rfl
@[simp] theorem v11_conly : (lexK11 (α := α) (ν := ν) neg).conly .cOnly = true := rfl
@[simp] theorem v11_conly_nums : (lexK11 (ν := ν) neg).conly (.nums xs) = false := rfl
@[simp] theorem v11_conly_dashes : (lexK11 (α := α) (ν := ν) neg).conly (.dashes n z) = false := rfl
@[simp] theorem v11_z1 : (lexK11 (α := α) (ν := ν) neg).z1 (.dashes n (some k)) = some (some k) := rfl
@[simp] theorem v11_z1_none : (lexK11 (α := α) (ν := ν) neg).z1 (.dashes n none) = none := rfl
@[simp] theorem v11_header : (lexK11 (α := α) (ν := ν) neg).header (.hdr hh) = some hh := rfl
@[simp] theorem v11_digit0_dashes : (lexK11 (α := α) (ν := ν) neg).digit0 (.dashes n z) = false := rfl
end views11

theorem tokensOf_nums (ls : List (List α)) :
    tokensOf (lexK11 (ν := ν) neg) (ls.map .nums) = some ls.flatten := by
  induction ls with
  | nil => rfl
  | cons c ls ih => simp only [List.map_cons, tokensOf, ih, List.flatten_cons]; rfl

theorem dataLines11_eq (nNe nTe : Nat) (b : Blk11 α) :
    dataLines11 (ν := ν) nNe nTe b
      = ((List.range nTe).flatMap fun j => chunk 8 ((List.range nNe).map fun i => b.rate i j)).map .nums := by
  unfold dataLines11
  rw [List.map_flatMap]

theorem tokens_dataLines (nNe nTe : Nat) (b : Blk11 α) :
    tokensOf (lexK11 (ν := ν) neg) (dataLines11 nNe nTe b)
      = some ((List.range nTe).flatMap fun j => (List.range nNe).map fun i => b.rate i j) := by
  rw [dataLines11_eq, tokensOf_nums, flatten_flatMap_chunk (by omega)]

theorem reshapeSwap_table (nNe nTe : Nat) (rate : Nat → Nat → α) :
    reshapeSwap nTe nNe ((List.range nTe).flatMap fun j => (List.range nNe).map fun i => rate i j)
      = some (tabulate nNe nTe rate) := by
  unfold reshapeSwap
  rw [if_pos (length_flatMap_range nTe nNe (fun j i => rate i j))]
  exact congrArg some (tabulate_of_lookup nNe nTe rate _ fun i hi j hj =>
    getElem?_flatMap_range nTe nNe (fun j i => rate i j) j i hj hi)

theorem loop11_data (h : Hdr11 ν) (vec : Option (List α)) (rest : List (K11 α ν)) :
    ∀ (ds : List (List α)) (acc : List (K11 α ν)) (ion : Nat) (rates : List (Nat × Block11 α)),
      loop11 (lexK11 neg) h vec (ds.map .nums ++ rest) { acc := some acc, ion := ion, rates := rates }
        = loop11 (lexK11 neg) h vec rest { acc := some (acc ++ ds.map .nums), ion := ion, rates := rates } := by
  intro ds
  induction ds with
  | nil => intro acc ion rates; simp
  | cons d ds ih =>
    intro acc ion rates
    simp only [List.map_cons, List.cons_append, loop11, v11_cdash_nums, Bool.false_eq_true, if_false, Option.map_some]
    rw [ih]
    simp

theorem loop11_dataLines (h : Hdr11 ν) (vec : Option (List α)) (rest : List (K11 α ν)) (nNe nTe : Nat) (b : Blk11 α)
    (ion : Nat) (rates : List (Nat × Block11 α)) :
    loop11 (lexK11 neg) h vec (dataLines11 nNe nTe b ++ rest) { acc := some [], ion := ion, rates := rates }
      = loop11 (lexK11 neg) h vec rest { acc := some (dataLines11 nNe nTe b), ion := ion, rates := rates } := by
  rw [dataLines11_eq, loop11_data]
  simp

/-- at a separator the loop tests `lines[i + 1]` for the lone "C" of the second terminator style (adf11.py:99-100) -/
theorem next_not_conly (nNe nTe : Nat) (b : Blk11 α) (bs : List (Blk11 α)) (alt : Bool) :
    ∃ nxt tl, dataLines11 nNe nTe b ++ (bs.flatMap (renderBlk11 nNe nTe) ++ endLines11 alt) = nxt :: tl
      ∧ (lexK11 (ν := ν) neg).conly nxt = false := by
  rw [dataLines11_eq]
  cases (List.range nTe).flatMap fun j => chunk 8 ((List.range nNe).map fun i => b.rate i j) with
  | cons d ds => exact ⟨_, _, rfl, rfl⟩
  | nil =>
    cases bs with
    | cons b' bs => exact ⟨_, _, rfl, rfl⟩
    | nil => cases alt <;> exact ⟨_, _, rfl, rfl⟩

def hdrOf (t : Tab11 α ν) : Hdr11 ν :=
  { z := t.z, nNe := t.ne.length, nTe := t.te.length, zmin := t.zmin, zmax := t.zmax, name := t.name }

theorem loop11_sep (t : Tab11 α ν) (cur : Blk11 α) (rates : List (Nat × Block11 α)) (k : Nat) (nxt : K11 α ν)
    (tl : List (K11 α ν)) (hc : (lexK11 (ν := ν) neg).conly nxt = false) :
    loop11 (lexK11 neg) (hdrOf t) (some (t.ne ++ t.te)) (.dashes 0 (some k) :: nxt :: tl)
        { acc := some (dataLines11 t.ne.length t.te.length cur), ion := cur.z1, rates := rates }
      = loop11 (lexK11 neg) (hdrOf t) (some (t.ne ++ t.te)) (nxt :: tl)
          { acc := some [], ion := k, rates := dictSet rates cur.z1 (expectedBlk11 t cur).2 } := by
  conv => lhs; rw [loop11]
  simp only [v11_cdash, if_true, tokens_dataLines, hdrOf, reshapeSwap_table, v11_c1dash0, Bool.false_eq_true, if_false,
    v11_c01dash0, v11_z1, hc, expectedBlk11, List.take_left', List.drop_left']

theorem loop11_end (t : Tab11 α ν) (cur : Blk11 α) (rates : List (Nat × Block11 α)) (alt : Bool) :
    loop11 (lexK11 neg) (hdrOf t) (some (t.ne ++ t.te)) (endLines11 alt)
        { acc := some (dataLines11 t.ne.length t.te.length cur), ion := cur.z1, rates := rates }
      = .ok (dictSet rates cur.z1 (expectedBlk11 t cur).2) := by
  cases alt <;>
    · rw [endLines11]
      simp only [Bool.false_eq_true, if_false, if_true]
      rw [loop11]
      simp only [tokens_dataLines, hdrOf, reshapeSwap_table, expectedBlk11, if_true, v11_cdash, v11_c1dash0, v11_c1dash1,
        v11_c01dash0, v11_conly, Bool.false_eq_true, if_false, List.take_left', List.drop_left']

/-- a block is stored only at the separator that follows it, hence the statement with the lines of `cur` already accumulated -/
theorem loop11_blocks (t : Tab11 α ν) :
    ∀ (bs : List (Blk11 α)) (cur : Blk11 α) (rates : List (Nat × Block11 α)),
      loop11 (lexK11 neg) (hdrOf t) (some (t.ne ++ t.te))
          (bs.flatMap (renderBlk11 t.ne.length t.te.length) ++ endLines11 t.altEnd)
          { acc := some (dataLines11 t.ne.length t.te.length cur), ion := cur.z1, rates := rates }
        = .ok (((cur :: bs).map (expectedBlk11 t)).foldl (fun d kv => dictSet d kv.1 kv.2) rates) := by
  intro bs
  induction bs with
  | nil =>
    intro cur rates
    rw [List.flatMap_nil, List.nil_append, loop11_end]
    rfl
  | cons b bs ih =>
    intro cur rates
    obtain ⟨nxt, tl, hl, hc⟩ := next_not_conly (ν := ν) neg t.ne.length t.te.length b bs t.altEnd
    simp only [List.flatMap_cons, renderBlk11, List.cons_append, List.append_assoc]
    rw [hl, loop11_sep neg t cur rates b.z1 nxt tl hc, ← hl, loop11_dataLines, ih]
    rfl

theorem splitAtDash_vec (z : Option Nat) (rest : List (K11 α ν)) :
    ∀ (ds : List (List α)),
      splitAtDash (lexK11 neg) (ds.map .nums ++ .dashes 0 z :: rest) = some (ds.map .nums, .dashes 0 z :: rest) := by
  intro ds
  induction ds with
  | nil => simp only [List.map_nil, List.nil_append, splitAtDash, v11_dash0, if_true]
  | cons d ds ih => simp only [List.map_cons, List.cons_append, splitAtDash, v11_dash_nums, Bool.false_eq_true, if_false, ih]

/-- `lines[startsearch:]` of a rendered file, which `parse_adf11` hands to its two loops -/
def bodyLines11 (t : Tab11 α ν) : List (K11 α ν) :=
  (chunk 8 t.ne).map .nums ++ ((chunk 8 t.te).map .nums
    ++ (t.blocks.flatMap (renderBlk11 t.ne.length t.te.length) ++ endLines11 t.altEnd))

theorem render11_eq (t : Tab11 α ν) :
    render11 t = .hdr (hdrOf t) :: .dashes 0 none ::
      ((match t.resolved with | some m => [.nums m, .dashes 0 none] | none => []) ++ bodyLines11 t) := by
  unfold render11 bodyLines11 hdrOf
  simp only [List.append_assoc, List.cons_append, List.nil_append]
  rfl

theorem parse11_body (t : Tab11 α ν) (hb : t.blocks ≠ []) :
    body11 (lexK11 neg) (hdrOf t) (bodyLines11 t) = .ok (dictOfList (t.blocks.map (expectedBlk11 t))) := by
  obtain ⟨b, bs, hbs⟩ := List.exists_cons_of_ne_nil hb
  unfold body11 bodyLines11
  simp only [hbs, List.flatMap_cons, renderBlk11, List.cons_append, List.append_assoc]
  rw [← List.append_assoc, ← List.map_append, splitAtDash_vec]
  simp only [tokensOf_nums, List.flatten_append, chunk_flatten (show 0 < 8 by omega)]
  rw [loop11]
  simp only [v11_cdash, if_true, v11_z1]
  rw [loop11_dataLines, loop11_blocks neg t]
  rfl

theorem parse11_render (t : Tab11 α ν) (elemZ : Nat) (elemName : ν) :
    parse11 (lexK11 neg) elemZ elemName (render11 t)
      = if elemZ != t.z || !(elemName == t.name) then .error .value
        else opt .index (render11 t)[3]? >>= fun l3 =>
          body11 (lexK11 neg) (hdrOf t) ((render11 t).drop (if (lexK11 neg).digit0 l3 then 2 else 4)) := by
  have h0 : (render11 t)[0]? = some (.hdr (hdrOf t)) := by rw [render11_eq]; rfl
  unfold parse11
  simp only [h0, opt, bind, Except.bind, v11_header]
  rfl

/-- in an unresolved file the resolved-file probe `re.match(Gen.AdfLex.probeRegex, lines[3])` (adf11.py:57) looks at the
second line of the density-then-temperature vector -/
theorem line3_unresolved (t : Tab11 α ν) (hres : t.resolved = none) (hne : t.ne ≠ []) (hte : t.te ≠ []) :
    ∃ c, c ≠ [] ∧ (render11 t)[3]? = some (.nums c) := by
  rw [render11_eq, hres]
  show ∃ c, c ≠ [] ∧ (bodyLines11 t)[1]? = _
  unfold bodyLines11
  rw [chunk_cons (by omega) hne, chunk_cons (by omega) hte]
  cases hc : chunk 8 (t.ne.drop 8) with
  | nil => exact ⟨_, take_ne_nil (by omega) hte, rfl⟩
  | cons c cs => exact ⟨c, chunk_ne_nil (by omega) _ c (hc ▸ List.mem_cons_self), rfl⟩

/-- ADF11 round trip under the hypothesis that the fourth line of the file, when it is a data line (as it is in an
unresolved file), passes the resolved-file probe.  `probe_nonneg` gives the hypothesis for a probe that rejects a sign,
`probe_after_fix` for one that accepts it. -/
theorem adf11_roundtrip_of_probe (t : Tab11 α ν) (hne : t.ne ≠ []) (hte : t.te ≠ []) (hb : t.blocks ≠ [])
    (hprobe : ∀ c, c ≠ [] → (render11 t)[3]? = some (.nums c) → (lexK11 (ν := ν) neg).digit0 (.nums c) = true) :
    parse11 (lexK11 neg) t.z t.name (render11 t) = .ok (dictOfList (t.blocks.map (expectedBlk11 t))) := by
  rw [parse11_render, if_neg (by rw [bne_self_eq_false, beq_self_eq_true]; exact Bool.false_ne_true)]
  cases hres : t.resolved with
  | some m =>
    have h3 : (render11 t)[3]? = some (.dashes 0 none) := by rw [render11_eq, hres]; rfl
    have hdrop : (render11 t).drop 4 = bodyLines11 t := by rw [render11_eq, hres]; rfl
    simp only [h3, opt, bind, Except.bind, v11_digit0_dashes, Bool.false_eq_true, if_false, hdrop, parse11_body neg t hb]
  | none =>
    have hdrop : (render11 t).drop 2 = bodyLines11 t := by rw [render11_eq, hres]; rfl
    obtain ⟨c, hc, h3⟩ := line3_unresolved t hres hne hte
    simp only [h3, opt, bind, Except.bind, hprobe c hc h3, if_true, hdrop, parse11_body neg t hb]

/-- the probe hypothesis holds when the first token of the probed line is not negative … -/
theorem probe_nonneg (x : α) (xs : List α) (h : neg x = false) :
    (lexK11 (ν := ν) neg).digit0 (.nums (x :: xs)) = true := by
  show (!neg x || Cherab.Gen.AdfLex.probeAcceptsMinus) = true
  rw [h]; rfl

/-- … and for every numeric line once the probe's regular expression accepts a sign -/
theorem probe_after_fix (hfix : Cherab.Gen.AdfLex.probeAcceptsMinus = true) (x : α) (xs : List α) :
    (lexK11 (ν := ν) neg).digit0 (.nums (x :: xs)) = true := by
  show (!neg x || Cherab.Gen.AdfLex.probeAcceptsMinus) = true
  rw [hfix, Bool.or_true]

/-- the probe of the current source accepts a leading minus sign: read off /repo by the translator on every run.
Reverting the fix of `parse/adf11.py` regenerates `probeAcceptsMinus := false` and this no longer builds. -/
theorem probe_fixed : Cherab.Gen.AdfLex.probeAcceptsMinus = true := by decide

/-- **ADF11 round trip** (resolved and unresolved files, any grid sizes ≥ 1, any number ≥ 1 of charge-state blocks, both
terminator styles, any sign of any value): the parser returns, for every `Z1` block, the density vector, the
temperature vector and `rates[i_ne][i_te]`.  Proved through the generated flag `probe_fixed`. -/
theorem adf11_roundtrip (t : Tab11 α ν) (hne : t.ne ≠ []) (hte : t.te ≠ []) (hb : t.blocks ≠ []) :
    parse11 (lexK11 neg) t.z t.name (render11 t) = .ok (dictOfList (t.blocks.map (expectedBlk11 t))) := by
  apply adf11_roundtrip_of_probe neg t hne hte hb
  intro c hc _
  obtain ⟨x, xs, rfl⟩ := List.exists_cons_of_ne_nil hc
  exact probe_after_fix neg probe_fixed x xs

/-- element-header check: a file whose header names another element (atomic number or name) is rejected -/
theorem wrong_element_rejected (t : Tab11 α ν) (elemZ : Nat) (elemName : ν) (h : elemZ ≠ t.z ∨ elemName ≠ t.name) :
    parse11 (lexK11 neg) elemZ elemName (render11 t) = .error .value := by
  rw [parse11_render, if_pos]
  rcases h with h | h
  · rw [bne_iff_ne.mpr h]; rfl
  · rw [beq_eq_false_iff_ne.mpr h, Bool.not_false, Bool.or_true]

/-- … and the matching header is necessary and sufficient for getting past the check -/
theorem element_check_iff (t : Tab11 α ν) (elemZ : Nat) (elemName : ν) (hne : t.ne ≠ []) (hte : t.te ≠ []) (hb : t.blocks ≠ []) :
    (∃ r, parse11 (lexK11 neg) elemZ elemName (render11 t) = .ok r) ↔ (elemZ = t.z ∧ elemName = t.name) := by
  constructor
  · rintro ⟨r, hr⟩
    by_contra hc
    rw [wrong_element_rejected neg t elemZ elemName (not_and_or.mp hc)] at hr
    cases hr
  · rintro ⟨rfl, rfl⟩
    exact ⟨_, adf11_roundtrip neg t hne hte hb⟩

end adf11

def negI (x : Int) : Bool := decide (x < 0)

/-- unresolved file, one density (7.0), one temperature below 1 eV (log10 = −1), one block -/
def witness11 : Tab11 Int Nat where
  z := 6
  name := 0
  zmin := 1
  zmax := 1
  ne := [7]
  te := [-1]
  resolved := none
  blocks := [{ z1 := 1, rate := fun _ _ => -10 }]
  altEnd := false

/-- Conditional lemma about the *pre-fix* probe `\s*[0-9]+` (fixed in /repo 0745ea0): whenever the generated table says
that the probe rejects a leading minus sign, this unresolved file (≤ 8 densities, first temperature below 1 eV) is taken
for a resolved one and the parser silently returns empty density and temperature vectors.  Vacuous on the fixed tree;
it becomes the live witness again if the fix is reverted (then `probe_fixed` stops building and the corpus case
re-finds `C08:adf11:unresolved-file-4th-line-negative-read-as-resolved`).  Not in the audited set. -/
theorem adf11_unresolved_misdetected : Cherab.Gen.AdfLex.probeAcceptsMinus = false →
    parse11 (lexK11 negI) 6 0 (render11 witness11) = .ok [(1, { ne := [], te := [], rates := [[-10]] })]
    ∧ parse11 (lexK11 negI) 6 0 (render11 witness11) ≠ .ok (dictOfList (witness11.blocks.map (expectedBlk11 witness11))) := by
  decide

/-- with the generated flag of the current source the same file is read correctly (by evaluation of the model) -/
theorem adf11_former_witness_roundtrip :
    parse11 (lexK11 negI) 6 0 (render11 witness11) = .ok [(1, { ne := [7], te := [-1], rates := [[-10]] })] := by
  decide

/-- non-vacuity of the round trip: an unresolved 2×2 file whose fourth line is not negative (so it also meets
`probe_nonneg`), parsed by evaluation -/
example : parse11 (lexK11 negI) 6 0 (render11 { witness11 with ne := [7, 8], te := [0, 1] })
    = .ok [(1, { ne := [7, 8], te := [0, 1], rates := [[-10, -10], [-10, -10]] })] := by decide +kernel

/-! ### axis order, charge convention, dictionaries -/

theorem tabulate_get (n m : Nat) (f : Nat → Nat → α) (i j : Nat) (hi : i < n) (hj : j < m) :
    (tabulate n m f)[i]?.bind (·[j]?) = some (f i j) := by
  simp [tabulate, hi, hj]

/-- **axis order**: entry `[i_ne][i_te]` of the parsed ADF11 table is the value the file stores for density `i_ne`,
temperature `i_te` (the file stores one row per temperature) -/
theorem axis_order {ν : Type} (t : Tab11 α ν) (b : Blk11 α) (i j : Nat) (hi : i < t.ne.length) (hj : j < t.te.length) :
    (expectedBlk11 t b).2.rates[i]?.bind (·[j]?) = some (b.rate i j) ∧ (expectedBlk11 t b).2.ne = t.ne ∧ (expectedBlk11 t b).2.te = t.te :=
  ⟨tabulate_get _ _ _ i j hi hj, rfl, rfl⟩

/-- the same for ADF15 (one row per density, `rate[i_ne][i_te]`) and ADF21/22 (`sen[i_e][i_n]`, stored per density) -/
theorem axis_order15 {ω : Type} (b : Blk15 α ω) (i j : Nat) (hi : i < b.ne.length) (hj : j < b.te.length) :
    (rateOfBlk15 b).rate[i]?.bind (·[j]?) = some (b.rate i j) := tabulate_get _ _ _ i j hi hj

theorem axis_order2x (t : Tab2x α) (i j : Nat) (hi : i < t.eb.length) (hj : j < t.dt.length) :
    (expected2x t).sen[i]?.bind (·[j]?) = some (t.sv i j) := tabulate_get _ _ _ i j hi hj

section dict
variable {κ β : Type} [BEq κ] [LawfulBEq κ]

theorem dictSet_new (d : List (κ × β)) (k : κ) (v : β) (h : k ∉ d.map (·.1)) : dictSet d k v = d ++ [(k, v)] := by
  induction d with
  | nil => rfl
  | cons kv d ih =>
    obtain ⟨k', v'⟩ := kv
    simp only [List.map_cons, List.mem_cons, not_or] at h
    simp only [dictSet, List.cons_append]
    rw [if_neg (fun e => h.1 (eq_of_beq e).symm), ih h.2]

theorem foldl_dictSet_nodup (l : List (κ × β)) :
    ∀ (d : List (κ × β)), ((d ++ l).map (·.1)).Nodup → l.foldl (fun d kv => dictSet d kv.1 kv.2) d = d ++ l := by
  induction l with
  | nil => intro d _; rw [List.foldl_nil, List.append_nil]
  | cons kv l ih =>
    intro d h
    have hk : kv.1 ∉ d.map (·.1) := fun hm => by
      rw [List.map_append, List.map_cons] at h
      exact (List.nodup_append.mp h).2.2 _ hm _ List.mem_cons_self rfl
    rw [List.append_cons] at h
    rw [List.foldl_cons, dictSet_new d kv.1 kv.2 hk, ih _ h, ← List.append_cons]

/-- with pairwise distinct keys a dictionary built by insertion is the list itself -/
theorem dictOfList_nodup (l : List (κ × β)) (h : (l.map (·.1)).Nodup) : dictOfList l = l :=
  foldl_dictSet_nodup l [] h

theorem dictGet_absent (l : List (κ × β)) (k : κ) (h : k ∉ l.map (·.1)) : dictGet l k = none := by
  induction l with
  | nil => rfl
  | cons kv l ih =>
    obtain ⟨k', v'⟩ := kv
    simp only [List.map_cons, List.mem_cons, not_or] at h
    simp only [dictGet]
    rw [if_neg (fun e => h.1 (eq_of_beq e).symm), ih h.2]

end dict

/-- which ADF11 classes are shifted: exactly scd, plt (and pls): ADAS indexes their blocks by the charge of the *product*
ion (`Z1`), cherab by the charge of the ion the process starts from -/
theorem charge_offset (c : Class11) :
    c.chargeCorrection = if c = .scd ∨ c = .plt ∨ c = .pls then -1 else 0 := by
  cases c <;> decide

/-- **charge convention**: `_notation_adf11_adas2cherab` re-keys every block `Z1 ↦ Z1 + correction` and leaves the
tables as they are (their conversions are the fixed tags `convNe11`, `convTe11`, `convRate11`); for a file with pairwise
distinct `Z1` nothing is lost or merged. -/
theorem charge_convention (c : Class11) (rates : List (Nat × Block11 α)) (h : (rates.map (·.1)).Nodup) :
    notation11 c rates
      = rates.map fun kb => ((kb.1 : Int) + c.chargeCorrection, { ne := kb.2.ne, te := kb.2.te, rates := kb.2.rates }) := by
  let f : Nat × Block11 α → Int × Rate11 α :=
    fun kb => ((kb.1 : Int) + c.chargeCorrection, { ne := kb.2.ne, te := kb.2.te, rates := kb.2.rates })
  -- shifting by a constant keeps the keys distinct
  have hkeys : ((rates.map f).map (·.1)).Nodup := by
    have : (rates.map f).map (·.1) = (rates.map (·.1)).map fun n : Nat => (n : Int) + c.chargeCorrection := by
      rw [List.map_map, List.map_map]; rfl
    rw [this]
    exact List.Nodup.map (fun a b (hab : (a : Int) + _ = (b : Int) + _) => by omega) h
  exact (List.foldl_map (f := f) (g := fun d kv => dictSet d kv.1 kv.2)).symm.trans (dictOfList_nodup _ hkeys)

theorem expectedBlk11_keys {ν : Type} (t : Tab11 α ν) : (t.blocks.map (expectedBlk11 t)).map (·.1) = t.blocks.map (·.z1) := by
  rw [List.map_map]; rfl

/-- **ADF11 as installed** (`install_adf11*` = `parse_adf11` then `_notation_adf11_adas2cherab`): for a file with pairwise
distinct `Z1`, every block arrives under charge `Z1 + correction` with the file's density vector, temperature vector and
`rate[i_ne][i_te]` table (to be read with the conversions `convs11installed`: 10^x·10⁶, 10^x, 10^x·10⁻⁶). -/
theorem adf11_installed {ν : Type} [DecidableEq ν] (neg : α → Bool) (c : Class11) (t : Tab11 α ν)
    (hne : t.ne ≠ []) (hte : t.te ≠ []) (hb : t.blocks ≠ []) (hnd : (t.blocks.map (·.z1)).Nodup) :
    (parse11 (lexK11 neg) t.z t.name (render11 t)).map (notation11 c)
      = .ok (t.blocks.map fun b => ((b.z1 : Int) + c.chargeCorrection,
              { ne := t.ne, te := t.te, rates := tabulate t.ne.length t.te.length b.rate })) := by
  have hkeys := (expectedBlk11_keys t).symm ▸ hnd
  rw [adf11_roundtrip neg t hne hte hb, dictOfList_nodup _ hkeys]
  simp only [Except.map]
  rw [charge_convention c _ hkeys, List.map_map]
  rfl

/-- scd block `Z1 = z` is stored as the ionisation rate of charge `z − 1`; acd block `Z1 = z` as the recombination
rate of charge `z` -/
example : Class11.scd.chargeCorrection = -1 ∧ Class11.plt.chargeCorrection = -1 ∧ Class11.acd.chargeCorrection = 0
    ∧ Class11.ccd.chargeCorrection = 0 ∧ Class11.prb.chargeCorrection = 0 ∧ Class11.prc.chargeCorrection = 0 := by decide

/-- a charge state that the file does not contain is not invented by the parser -/
theorem adf11_absent_block {ν : Type} (t : Tab11 α ν) (z : Nat) (h : z ∉ t.blocks.map (·.z1)) (hnd : (t.blocks.map (·.z1)).Nodup) :
    dictGet (dictOfList (t.blocks.map (expectedBlk11 t))) z = none := by
  rw [dictOfList_nodup _ ((expectedBlk11_keys t).symm ▸ hnd)]
  exact dictGet_absent _ z ((expectedBlk11_keys t).symm ▸ h)

/-! ## ADF15 -/
section adf15
variable {ω σ : Type} [DecidableEq σ]

/-- what the index section of the file says: (type, transition, ISEL, wavelength) per index line; in the full dialect the
two level numbers are looked up in the configuration table -/
def entries15 (t : Tab15 α ω σ) : List (Entry15 ω σ) :=
  match t.dialect with
  | .full _ => t.idx.filterMap (entryFOf (cfgTable t))
  | _ => t.idx.map entryNOf

/-- which calls of `parse_adf15` read which header dialect: hydrogen-style index (`header_format='hydrogen'`, element
hydrogen, or the `bnd#` fallback for one-electron ions), hydrogen-like (`header_format='hydrogen-like'` or a
one-electron ion), full configuration (everything else) -/
def Selects (s : Sel15) : Dialect → Prop
  | .hydrogen => (s.headerFormat = some .hydrogen ∨ s.isHydrogen = true)
      ∨ (s.headerFormat = none ∧ s.isHydrogen = false ∧ s.oneElectron = true ∧ s.bnd = true)
  | .hydrogenLike => s.headerFormat ≠ some .hydrogen ∧ s.isHydrogen = false
      ∧ (s.headerFormat = some .hydrogenLike ∨ s.oneElectron = true)
  | .full _ => s.headerFormat = none ∧ s.isHydrogen = false ∧ s.oneElectron = false

structure WF15 (t : Tab15 α ω σ) : Prop where
  idx_ne : t.idx ≠ []
  cfg_l : ∀ c ∈ t.cfgs, c.l ≤ 13
  levels : ∀ dot, t.dialect = .full dot → ∀ e ∈ t.idx, (entryFOf (cfgTable t) e).isSome

/-- **ISEL → transition map** for the three header dialects -/
theorem scrape_render (t : Tab15 α ω σ) (s : Sel15) (hsel : Selects s t.dialect) (hwf : WF15 t) :
    scrape lexK15 s (render15 t) = .ok (entries15 t) := by
  unfold scrape entries15
  cases hd : t.dialect with
  | hydrogen =>
    rw [hd] at hsel
    have hH : scrapeHydrogen lexK15 (render15 t) = .ok (t.idx.map entryNOf) :=
      scrapeWith_render t _ rfl rfl fun e => by rw [hd]; exact ⟨_, rfl, rfl⟩
    rcases hsel with h | ⟨h1, h2, h3, h4⟩
    · have : (decide (s.headerFormat = some HeaderFormat.hydrogen) || s.isHydrogen) = true := by
        rcases h with h | h <;> simp [h]
      simp only [this, if_true, hH]
    · -- one-electron ion, `bnd#` file: the hydrogen-like scrape comes back empty and the hydrogen one is tried
      have hHL : scrapeHydrogenLike lexK15 (render15 t) = _ := scrapeHydrogenLike_on_hydrogen t hd
      simp only [h1, h2, h3, h4, reduceCtorEq, decide_false, Bool.or_self, Bool.false_eq_true, if_false, if_true, hHL, hH]
  | hydrogenLike =>
    rw [hd] at hsel
    obtain ⟨h1, h2, h3⟩ := hsel
    have hHL : scrapeHydrogenLike lexK15 (render15 t) = .ok (t.idx.map entryNOf) :=
      scrapeWith_render t _ rfl rfl fun e => by rw [hd]; exact ⟨_, rfl, rfl⟩
    have hc1 : (decide (s.headerFormat = some HeaderFormat.hydrogen) || s.isHydrogen) = false := by simp [h1, h2]
    simp only [hc1, Bool.false_eq_true, if_false, hHL]
    by_cases hhl : s.headerFormat = some HeaderFormat.hydrogenLike
    · simp only [hhl, if_true]
    · -- a one-electron ion without `header_format`: the index is not empty, so there is no fallback
      obtain ⟨e, es, he⟩ := List.exists_cons_of_ne_nil hwf.idx_ne
      simp only [hhl, if_false, h3.resolve_left hhl, if_true, he, List.map_cons]
  | full dot =>
    rw [hd] at hsel
    obtain ⟨h1, h2, h3⟩ := hsel
    simp only [h1, h2, h3, reduceCtorEq, decide_false, Bool.or_self, Bool.false_eq_true, if_false]
    exact scrapeFull_render t dot hd hwf.cfg_l (hwf.levels dot hd)

theorem entries15_ne (t : Tab15 α ω σ) (hwf : WF15 t) : (entries15 t).isEmpty = false := by
  unfold entries15
  obtain ⟨e, es, he⟩ := List.exists_cons_of_ne_nil hwf.idx_ne
  cases hd : t.dialect with
  | hydrogen => simp [he]
  | hydrogenLike => simp [he]
  | full dot =>
    have := hwf.levels dot hd e (by rw [he]; exact List.mem_cons_self)
    obtain ⟨en, hen⟩ := Option.isSome_iff_exists.mp this
    simp [he, hen]

/-- the block with `ISEL = p.2` exists in the data section -/
def present (t : Tab15 α ω σ) (p : Trans σ × Nat) : Bool := (findBlk t.blocks p.2).isSome

def ratesFor (t : Tab15 α ω σ) (cfg : List (Trans σ × Nat)) : List (Trans σ × Rate15 α) :=
  cfg.filterMap fun p => (findBlk t.blocks p.2).map fun b => (p.1, rateOfBlk15 b)

theorem extractAll_render (t : Tab15 α ω σ) (cfg : List (Trans σ × Nat)) :
    extractAll lexK15 (render15 t) cfg = if cfg.all (present t) then .ok (ratesFor t cfg) else .error .runtime := by
  induction cfg with
  | nil => rfl
  | cons p cfg ih =>
    obtain ⟨tr, k⟩ := p
    have hx : extractRate lexK15 (render15 t) k = _ := extractRate_render (σ := σ) t k
    cases hf : findBlk t.blocks k with
    | none =>
      simp only [extractAll, hx, hf, List.all_cons, present]
      rfl
    | some b =>
      simp only [extractAll, hx, hf, ih, List.all_cons, present, ratesFor, List.filterMap_cons]
      cases List.all cfg (present t) <;> rfl

/-- every transition of every type refers to a block that the data section contains -/
def AllPresent (t : Tab15 α ω σ) : Prop := ∀ T, (configOf (entries15 t) T).all (present t) = true

def expected15 (t : Tab15 α ω σ) : Out15 α ω σ :=
  { excitation := ratesFor t (configOf (entries15 t) .excit),
    recombination := ratesFor t (configOf (entries15 t) .recom),
    thermalcx := ratesFor t (configOf (entries15 t) .chexc),
    wavelength := dictOfList ((entries15 t).map fun e => (e.tr, e.wl)) }

theorem parse15_render (t : Tab15 α ω σ) (s : Sel15) (hsel : Selects s t.dialect) (hwf : WF15 t) :
    parse15 lexK15 s (render15 t)
      = if (configOf (entries15 t) .excit).all (present t) && (configOf (entries15 t) .recom).all (present t)
            && (configOf (entries15 t) .chexc).all (present t)
        then .ok (expected15 t) else .error .runtime := by
  unfold parse15
  have hh : (render15 t).head? = some (.fileHeader t.blocks.length) := by rw [render15_eq]; rfl
  have hf : (lexK15 (α := α) (ω := ω) (σ := σ)).fileHeader (.fileHeader t.blocks.length) = true := rfl
  simp only [hh, opt, bind, Except.bind, hf, Bool.not_true, Bool.false_eq_true, if_false, scrape_render t s hsel hwf,
    entries15_ne t hwf, extractAll_render]
  cases (configOf (entries15 t) .excit).all (present t) <;> cases (configOf (entries15 t) .recom).all (present t) <;>
    cases (configOf (entries15 t) .chexc).all (present t) <;> rfl

/-- **ADF15 round trip** (hydrogen / hydrogen-like / full-configuration headers, EXCIT / RECOM / CHEXC blocks, any
number of blocks, any grid sizes): each index line's transition is given the tables of the data block carrying its
ISEL number — densities, temperatures and `rate[i_ne][i_te]` (`rateOfBlk15`, `axis_order15`) — grouped by type, and the
wavelength table holds the index line's wavelength. -/
theorem adf15_roundtrip (t : Tab15 α ω σ) (s : Sel15) (hsel : Selects s t.dialect) (hwf : WF15 t) (hp : AllPresent t) :
    parse15 lexK15 s (render15 t) = .ok (expected15 t) := by
  rw [parse15_render t s hsel hwf, hp .excit, hp .recom, hp .chexc]
  rfl

/-- **absent block**: if some indexed transition refers to an ISEL number that no data block carries, `parse_adf15`
raises `RuntimeError` instead of returning tables -/
theorem absent_block_rejected (t : Tab15 α ω σ) (s : Sel15) (hsel : Selects s t.dialect) (hwf : WF15 t) (hp : ¬ AllPresent t) :
    parse15 lexK15 s (render15 t) = .error .runtime := by
  rw [parse15_render t s hsel hwf, if_neg]
  intro h
  simp only [Bool.and_eq_true] at h
  exact hp fun T => by cases T; exacts [h.1.1, h.1.2, h.2]

/-- **block-to-transition assignment**: when the transitions of one type are pairwise distinct, each keeps the ISEL
number of its own index line (otherwise the later line wins, as in a Python dict) -/
theorem block_to_transition (t : Tab15 α ω σ) (T : RateType)
    (hnd : (((entries15 t).filter (·.typ == T)).map (·.tr)).Nodup) :
    configOf (entries15 t) T = ((entries15 t).filter (·.typ == T)).map fun e => (e.tr, e.block) := by
  unfold configOf
  apply dictOfList_nodup
  rw [List.map_map]
  exact hnd

/-- the looked-up block is the first data block carrying that ISEL number -/
theorem extract_finds_block (t : Tab15 α ω σ) (k : Nat) :
    extractRate lexK15 (render15 t) k
      = match t.blocks.find? (fun b => b.isel == k) with
        | some b => .ok (rateOfBlk15 b)
        | none => .error .runtime :=
  extractRate_render (σ := σ) t k

end adf15

/-- non-vacuity of the ADF15 theorems: a full-configuration file with two blocks (3×2 and 1×1), index without the dot -/
def sample15 : Tab15 Nat Nat Nat where
  blocks := [{ isel := 1, wl := 1215, typ := .excit, ne := [1, 2, 3], te := [4, 5], rate := fun i j => 10 * i + j },
             { isel := 2, wl := 6561, typ := .recom, ne := [7], te := [8], rate := fun _ _ => 99 }]
  cfgs := [{ id := 1, conf := 11, spin := 2, l := 0, j := 5 }, { id := 2, conf := 12, spin := 2, l := 1, j := 15 }]
  idx := [{ isel := 1, wl := 121567, up := 2, lo := 1, typ := .excit }, { isel := 2, wl := 656280, up := 2, lo := 1, typ := .recom }]
  dialect := .full false

example : parse15 lexK15 ⟨none, false, false, false⟩ (render15 sample15)
    = .ok { excitation := [((.cfg 12 2 1 15, .cfg 11 2 0 5), { ne := [1, 2, 3], te := [4, 5], rate := [[0, 1], [10, 11], [20, 21]] })],
            recombination := [((.cfg 12 2 1 15, .cfg 11 2 0 5), { ne := [7], te := [8], rate := [[99]] })],
            thermalcx := [],
            wavelength := [((.cfg 12 2 1 15, .cfg 11 2 0 5), 656280)] } := by decide +kernel

example : WF15 sample15 ∧ Selects ⟨none, false, false, false⟩ sample15.dialect ∧ AllPresent sample15 := by
  refine ⟨⟨by decide, by decide, ?_⟩, ⟨rfl, rfl, rfl⟩, ?_⟩
  · intro dot _; decide
  · intro T; cases T <;> decide

/-- … and dropping the second data block makes the same call fail with RuntimeError -/
def sample15short : Tab15 Nat Nat Nat := { sample15 with blocks := sample15.blocks.take 1 }

example : parse15 lexK15 ⟨none, false, false, false⟩ (render15 sample15short) = .error .runtime
    ∧ ¬ AllPresent sample15short := by
  refine ⟨by decide, fun h => ?_⟩
  have := h .recom
  revert this
  decide

/-! ## tie to the source literals (Gen/AdfLex.lean is regenerated from /repo on every run) -/

/-- every regular expression, constant column slice, `readvalues(n, per_line)` call, `/ 10` and conversion factor of
the anchored sources is still the one that the text layer (`Model/AdfText.lean`) and the harness transcribe -/
theorem lex_literals_pinned :
    Cherab.Gen.AdfLex.regexes = Cherab.Adf.Text.pinnedRegexes
    ∧ Cherab.Gen.AdfLex.slices = Cherab.Adf.Text.pinnedSlices
    ∧ Cherab.Gen.AdfLex.readvaluesCalls = Cherab.Adf.Text.pinnedReadvalues
    ∧ Cherab.Gen.AdfLex.divisions = Cherab.Adf.Text.pinnedDivisions
    ∧ Cherab.Gen.AdfLex.conversionFactors = Cherab.Adf.Text.pinnedFactors :=
  ⟨rfl, rfl, rfl, rfl, rfl⟩

/-- the classes that the model shifts by −1 are exactly the strings listed in `_notation_adf11_adas2cherab` -/
theorem charge_list_pinned (c : Class11) :
    (c.chargeCorrection = -1) ↔ c.code ∈ (Cherab.Gen.AdfLex.membershipLists.lookup "install.py:_notation_adf11_adas2cherab:in1").getD [] := by
  cases c <;> decide

/-- the normalisation of `sen`, `st`, `sref` in the model is the `normalisation=` argument of the three front ends -/
theorem norm_pinned (k : Kind2x) :
    (Cherab.Gen.AdfLex.normalisations.lookup k.key)
      = some (match k.norm with | .cm3 => "Cm3ToM3.conversion_factor" | _ => "1") := by
  cases k <;> simp [Cherab.Gen.AdfLex.normalisations, Kind2x.key, Kind2x.norm, List.lookup]

/-- `install_files` and the installers are still the tables transcribed in the model -/
theorem dispatch_table_pinned :
    Cherab.Gen.AdfLex.dispatch = installDispatch ∧ Cherab.Gen.AdfLex.installers = installerTable :=
  ⟨rfl, rfl⟩

/-- **bulk install dispatch**: every configuration key runs exactly the installer of its own name and hands on
`repository_path` / `adas_path` / `download`; every installer is reachable; no key runs two installers -/
theorem dispatch_sound :
    (∀ e ∈ installDispatch, e.2.1 = "install_" ++ e.1
        ∧ e.2.2 = "download=download repository_path=repository_path adas_path=adas_path")
    ∧ installDispatch.map (·.2.1) = installerTable.map (·.1)
    ∧ (installDispatch.map (·.1)).Nodup :=
  ⟨by simp only [installDispatch, List.forall_mem_cons, List.not_mem_nil, false_imp_iff, implies_true, String.reduceAppend,
      and_self],
    rfl,
    by simp only [installDispatch, List.map_cons, List.map_nil, List.nodup_cons, List.mem_cons, List.not_mem_nil, String.reduceEq,
      or_self, not_false_eq_true, List.nodup_nil, and_self]⟩

/-- no two installers write the same repository family, each ADF11 installer uses the notation class of its own name, and
each parses with the parser of its format -/
theorem installers_separate :
    (installerTable.map (·.2.2.2)).Nodup
    ∧ (∀ e ∈ installerTable, e.2.1 = "parse_adf11" → e.1 = "install_adf11" ++ e.2.2.1)
    ∧ (∀ e ∈ installerTable, e.2.1 ≠ "parse_adf11" → e.1 = "install_" ++ String.ofList (e.2.1.toList.drop 6) ∧ e.2.2.1 = "") :=
  ⟨by simp only [installerTable, List.map_cons, List.map_nil, List.nodup_cons, List.mem_cons, List.not_mem_nil, String.reduceEq,
      or_self, not_false_eq_true, List.nodup_nil, and_self],
    by simp only [installerTable, List.forall_mem_cons, List.not_mem_nil, false_imp_iff, implies_true, String.reduceAppend,
      String.reduceEq, and_self],
    by decide +kernel⟩

example : installFilesTargets "ADF11prc" = ["install_adf11prc"]
    ∧ installerWrites "install_adf11prc" = some "update_cx_power_rates(repository_path)" := by decide +kernel

section textlayer
open Cherab.Adf.Text

/-- **fixed-column slicing inverts the Fortran list write**: for any list of tokens that are non-empty, blank-free and at
most 9 characters long, written in consecutive 10-column fields, the slice `line[1+10k : 10(k+1)]` of `readvalues`,
stripped of blanks (as `float()` / `int()` do), is exactly the `k`-th token — for every `k` and every number of tokens. -/
theorem fixed_field_roundtrip (toks : List Cs) (h : ∀ t ∈ toks, WFTok 9 t) (k : Nat) (hk : k < toks.length) :
    trim (slice (fieldsLine 10 toks) (1 + 10 * k) (10 * (k + 1))) = toks[k] :=
  field_slice 10 (by omega) toks h k hk

/-- **blank splitting inverts the Fortran list write** (ADF11 `np.fromstring`, ADF15 `line.split()`): tokens that are
non-empty, blank-free and shorter than the field width come back exactly, in order, whatever their number -/
theorem ws_tokens_roundtrip (w : Nat) (hw : 0 < w) (toks : List Cs) (h : ∀ t ∈ toks, WFTok (w - 1) t) :
    splitWs (fieldsLine w toks) = toks := by
  unfold splitWs
  rw [go_fields w toks h hw [], if_pos rfl, List.nil_append]

theorem trim_map (f : Char → Char) (hf : ∀ c, isWs (f c) = isWs c) (cs : Cs) : trim (cs.map f) = (trim cs).map f := by
  have hw : isWs ∘ f = isWs := funext hf
  unfold trim
  rw [List.dropWhile_map, hw, ← List.map_reverse, List.dropWhile_map, hw, List.map_reverse]

/-- the string-level views of the model see exactly the written tokens: the `k`-th `readvalues` field of a rendered data
line is the `k`-th token after `replace('D','E')`, and the blank-separated tokens of a rendered line are the tokens -/
theorem data_line_views (xs : List String) (h : ∀ x ∈ xs, WFTok 9 x.toList) (k : Nat) (hk : k < xs.length) :
    trim (fieldCs (dataLine 10 xs) k) = replaceDE (xs[k]).toList
    ∧ splitWs (dataLine 10 xs).toList = xs.map String.toList := by
  have h' : ∀ t ∈ xs.map String.toList, WFTok 9 t := List.forall_mem_map.mpr h
  constructor
  · unfold fieldCs dataLine replaceDE
    have hDE : ∀ c : Char, isWs (if c == 'D' then 'E' else c) = isWs c := fun c => by
      split
      · next h => rw [eq_of_beq h]; rfl
      · rfl
    rw [String.toList_ofList, trim_map _ hDE, fixed_field_roundtrip _ h' k (by rw [List.length_map]; exact hk), List.getElem_map]
  · unfold dataLine
    rw [String.toList_ofList]
    exact ws_tokens_roundtrip 10 (by omega) _ h'

/-- non-vacuity: three tokens, the middle one negative and 9 characters wide -/
example : trim (slice (fieldsLine 10 ["1.5E+03".toList, "-11.12345".toList, "7".toList]) 11 20) = "-11.12345".toList
    ∧ splitWs (fieldsLine 9 ["1.00E+07".toList, "2.5E-09".toList]) = ["1.00E+07".toList, "2.5E-09".toList] := by decide +kernel

example : WFTok 9 "-11.12345".toList := ⟨by decide, by decide, by decide⟩

end textlayer

/-! ### bulk dispatch for every key spelling -/

theorem filter_key_le_one {β : Type} (x : String) (l : List (String × β)) (h : (l.map (·.1)).Nodup) :
    (l.filter fun e => e.1 == x).length ≤ 1 := by
  have := List.nodup_iff_count_le_one.mp h x
  rwa [List.count_eq_countP, List.countP_map, List.countP_eq_length_filter] at this

/-- **`install_files`, every key spelling**: whatever string is used as configuration key, at most one installer runs and
it is the installer named after the lower-cased key (lifting of the decided table `dispatch_sound` to all inputs) -/
theorem install_files_dispatch (key : String) :
    (installFilesTargets key).length ≤ 1
    ∧ ∀ f ∈ installFilesTargets key, f = "install_" ++ String.ofList (key.toList.map Char.toLower) := by
  unfold installFilesTargets
  constructor
  · rw [List.length_map]
    exact filter_key_le_one _ _ dispatch_sound.2.2
  · intro f hf
    obtain ⟨e, he, rfl⟩ := List.mem_map.mp hf
    rw [List.mem_filter] at he
    rw [← eq_of_beq he.2]
    exact (dispatch_sound.1 e he.1).1

example : installFilesTargets "AdF22BmE" = ["install_adf22bme"] ∧ installFilesTargets "adf22bms" = [] := by decide +kernel

/-! ### which copy of the file is parsed (`_locate_adas_file`) -/

/-- candidate list → first available -/
theorem locate_first_available (d a ia ic : Bool) :
    locateAdasFile d a ia ic = (locateCandidates d a).find? (placeAvailable ia ic) := by
  cases d <;> cases a <;> cases ia <;> cases ic <;> rfl

/-- **the file the caller points to wins**: when `adas_path` is given and holds the file, that copy is parsed —
whatever `download` says and whatever sits in the repository's download cache -/
theorem adas_path_wins (d ic : Bool) : locateAdasFile d true true ic = some .adas := by
  cases d <;> cases ic <;> rfl

/-- the cache and the network are only consulted with `download=True`; the cache copy is preferred to a download; a file
found nowhere without `download` is reported as missing -/
theorem locate_download_rules (a ia ic : Bool) :
    (locateAdasFile false a ia ic = if a && ia then some .adas else none)
    ∧ (a && ia = false → locateAdasFile true a ia true = some .cache)
    ∧ (a && ia = false → locateAdasFile true a ia false = some .network) := by
  cases a <;> cases ia <;> cases ic <;> simp [locateAdasFile]

end Cherab.Props.C08
