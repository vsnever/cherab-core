import Cherab.Gen.RepoPaths

namespace Cherab.Props.C06Table
open Cherab.Gen.RepoPaths

/-- **`pec_reads_passed_data`**: `update_pec_rates` does not rebind its class loop variable and then index its argument
with it — i.e. it stores, for every entry, the rate dictionary that entry carries (`UpdFn.prep` is the identity:
`Props.C06.prep_id_of_tables`) -/
theorem pec_reads_passed_data : tables.pecReindexes = false := by decide

end Cherab.Props.C06Table
