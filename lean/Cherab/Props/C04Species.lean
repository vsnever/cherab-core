import Cherab.Props.C04

/-!
C04 — the species loops of `_beam_stopping` (singleray.pyx:268-314) as folds over the composition list.

`_stopping_data` is built by iterating `plasma.composition` (a dict-backed container, so its order is the insertion
order of the user's `composition.add/set` calls).  The two loops (`density_sum += Z²·n`, `stopping_coeff += n·Z·S_i`)
are left folds in the model (`densitySum`, `beamStopping`).  Here: the result does not depend on the order in which
the species were listed, at every level of the pipeline (stopping coefficient, attenuation table, whole
`Beam.density`), and splitting one species entry into two entries with the same charge, temperature, velocity and rate
object (densities `n₁ + n₂`) changes nothing — the composite coefficient is a function of the *multiset* of species and
is additive in the density of a species at fixed equivalent electron density.
-/
namespace Cherab.Props.C04
set_option linter.unusedSectionVars false
open Cherab.BeamDensity Cherab.Lemmas.BeamDensity

variable {α : Type} [Field α] [LinearOrder α] [IsStrictOrderedRing α]

/-- first loop: `density_sum` is the same for every listing order of the composition -/
theorem densitySum_perm (ts ts' : List (Target α)) (h : ts.Perm ts') : densitySum ts = densitySum ts' := by
  rw [densitySum_eq_sum, densitySum_eq_sum]
  exact (h.map _).sum_eq

/-- second loop: the composite stopping coefficient is the same for every listing order of the composition -/
theorem beamStopping_perm (sqrt : α → α) (cf : α) (bv : Vec α) (ts ts' : List (Target α)) (h : ts.Perm ts') :
    beamStopping sqrt cf bv ts = beamStopping sqrt cf bv ts' := by
  rw [beamStopping_eq_sum, beamStopping_eq_sum, densitySum_perm ts ts' h]
  exact (h.map _).sum_eq

/-- the attenuation table does not depend on the order of the species, even if the order differs from one axis
point to the next -/
theorem calcAttenuation_species_order_independent (sqrt exp : α → α) (echarge amu energy power mass : α) (dir : Vec α)
    (zs : List α) (targets targets' : List (List (Target α))) (h : List.Forall₂ List.Perm targets targets') :
    calcAttenuation sqrt exp echarge amu energy power mass dir zs targets =
      calcAttenuation sqrt exp echarge amu energy power mass dir zs targets' := by
  unfold calcAttenuation
  -- the table reads the species only through the stopping coefficient at each axis point
  simp only [map_eq_of_forall₂ (fun a b hab => beamStopping_perm sqrt _ _ a b hab) h]

/-- `Beam.density` of a fresh beam does not depend on the order in which the plasma species were listed -/
theorem full_density_species_order_independent (sqrt exp : α → α) (pi echarge amu energy power mass : α) (dir : Vec α)
    (sigma tanx tany length : α) (n : Nat) (clamp : Bool) (clampSqr : α)
    (targets targets' : List (List (Target α))) (h : List.Forall₂ List.Perm targets targets') (x y z : α) :
    beamDensityFull sqrt exp pi echarge amu energy power mass dir sigma tanx tany length n clamp clampSqr targets x y z =
      beamDensityFull sqrt exp pi echarge amu energy power mass dir sigma tanx tany length n clamp clampSqr targets' x y z := by
  unfold beamDensityFull
  rw [calcAttenuation_species_order_independent sqrt exp echarge amu energy power mass dir _ targets targets' h]

/-- one species entry split into two entries with the same charge, temperature, velocity and rate (densities
`n₁`, `n₂` instead of `n₁ + n₂`): same `density_sum` -/
theorem densitySum_split (q : Nat) (n₁ n₂ t : α) (v : Vec α) (r : α → α → α → α) (ts : List (Target α)) :
    densitySum (⟨q, n₁, t, v, r⟩ :: ⟨q, n₂, t, v, r⟩ :: ts) = densitySum (⟨q, n₁ + n₂, t, v, r⟩ :: ts) := by
  simp only [densitySum_eq_sum, List.map_cons, List.sum_cons]
  ring

/-- … and the same composite stopping coefficient: `S` is additive in the density of a species -/
theorem beamStopping_split (sqrt : α → α) (cf : α) (bv : Vec α) (q : Nat) (n₁ n₂ t : α) (v : Vec α)
    (r : α → α → α → α) (ts : List (Target α)) :
    beamStopping sqrt cf bv (⟨q, n₁, t, v, r⟩ :: ⟨q, n₂, t, v, r⟩ :: ts) =
      beamStopping sqrt cf bv (⟨q, n₁ + n₂, t, v, r⟩ :: ts) := by
  rw [beamStopping_eq_sum, beamStopping_eq_sum, densitySum_split]
  simp only [List.map_cons, List.sum_cons, stoppingTerm, rateArgs]
  ring

section Examples

-- non-vacuity: a genuine reordering of two different species, and the value both orders give (70, as in Props/C04)
example : [(⟨1, 2, 0, (0, 0, 0), fun _ n _ => n⟩ : Target ℚ), ⟨2, 3, 0, (0, 0, 0), fun _ n _ => n⟩].Perm
    [⟨2, 3, 0, (0, 0, 0), fun _ n _ => n⟩, ⟨1, 2, 0, (0, 0, 0), fun _ n _ => n⟩] := List.Perm.swap _ _ _
example : beamStopping (fun x : ℚ => x) 1 (0, 0, 0)
    [⟨2, 3, 0, (0, 0, 0), fun _ n _ => n⟩, ⟨1, 2, 0, (0, 0, 0), fun _ n _ => n⟩] = 70 := by
  decide +kernel
-- a per-point reordering for a two-point axis
example : List.Forall₂ List.Perm
    [[(⟨1, 2, 0, (0, 0, 0), fun _ n _ => n⟩ : Target ℚ), ⟨2, 3, 0, (0, 0, 0), fun _ n _ => n⟩], []]
    [[⟨2, 3, 0, (0, 0, 0), fun _ n _ => n⟩, ⟨1, 2, 0, (0, 0, 0), fun _ n _ => n⟩], []] :=
  .cons (List.Perm.swap _ _ _) (.cons .nil .nil)
-- split: 2 = 1/2 + 3/2 of the charge-1 species gives the same 70
example : beamStopping (fun x : ℚ => x) 1 (0, 0, 0)
    [⟨1, 1 / 2, 0, (0, 0, 0), fun _ n _ => n⟩, ⟨1, 3 / 2, 0, (0, 0, 0), fun _ n _ => n⟩,
     ⟨2, 3, 0, (0, 0, 0), fun _ n _ => n⟩] = 70 := by
  decide +kernel

end Examples

end Cherab.Props.C04
