import Cherab.Props.C02
import Cherab.Lemmas.LineShapeParam

/-!
# C02 — `ParametrisedZeemanTriplet` is normalised

The end-to-end statement for `ParametrisedZeemanTriplet.add_line` (zeeman.pyx:219), whose width carries the extra factor
`sqrt(1 + β² T^(2γ))` (zeeman.pyx:237).
`pow` stays a parameter; the only fact used about it is the named hypothesis `0 ≤ pow T (2γ)` at the temperature in
question (true of C `pow` for every `T > 0`, any real exponent).
-/

namespace Cherab.Props.C02
set_option linter.unusedSectionVars false
set_option linter.unusedVariables false
open Cherab.LineShape Cherab.Lemmas.LineShape

variable {α : Type} [Field α] [LinearOrder α] [IsStrictOrderedRing α]

/-- the parametrised width is positive and never below the Doppler width, for every `β`, `γ` (either sign) -/
theorem paramZeeman_width_bounds (F : Fns α) (hs : SqrtSpec F.sqrt) (K : Consts α) (hK : ConstsPos K) (be ga : α) (e : Env α)
    (hwl : 0 < e.wl) (haw : 0 < e.aw) (hts : 0 < e.ts) (hp : 0 ≤ F.pow e.ts (2.0 * ga)) :
    0 < thermalBroadening F K e.wl e.ts e.aw * F.sqrt (1.0 + be * be * F.pow e.ts (2.0 * ga)) ∧
      thermalBroadening F K e.wl e.ts e.aw ≤
        thermalBroadening F K e.wl e.ts e.aw * F.sqrt (1.0 + be * be * F.pow e.ts (2.0 * ga)) :=
  ⟨paramZeeman_width_pos hs hK hwl haw hts hp, paramZeeman_width_ge_thermal hs hK hwl haw hts hp⟩

/-- **ParametrisedZeemanTriplet (unpolarised) is normalised for every field vector, viewing direction and every
`α, β, γ`**, `|B| = 0` included: window spanning the components ⇒ `R·erf(cut/√2) ≤ Σ added·Δ ≤ R` -/
theorem paramZeeman_normalised (F : Fns α) (hf : FloorSpec F.floorI) (hc : CeilSpec F.ceilI) (he : ErfSpec F.erf)
    (h2 : 0 < F.sqrt2) (hsq : SqrtSpec F.sqrt) (K : Consts α) (hK : ConstsPos K) (I : α → α → α → α → α) (cutG cutL : α)
    (hG : 0 ≤ cutG) (al be ga R : α) (e : Env α) (hR : 0 ≤ R) (hwl : 0 < e.wl) (haw : 0 < e.aw) (hts : 0 < e.ts)
    (hd : dot e.dir e.dir ≠ 0) (hp : 0 ≤ F.pow e.ts (2.0 * ga)) (s : Spec α) (hs : WF s)
    (hsp : Spans cutG (paramZeemanComps F K al be ga Pol.no R e) s) :
    integral s + R * F.erf (cutG / F.sqrt2) ≤ integral (addComps F I cutG cutL (paramZeemanComps F K al be ga Pol.no R e) s) ∧
      integral (addComps F I cutG cutL (paramZeemanComps F K al be ga Pol.no R e) s) ≤ integral s + R :=
  comps_normalised F hf hc he h2 I cutG cutL hG _ R (paramZeeman_good hsq hK hwl haw hts hp Pol.no hR)
    (paramZeeman_weights_sum F K al be ga R e hts) s hs hsp

/-- the π- and σ-polarised spectra, each added to the same base spectrum with a window spanning its components, together
deliver the radiance: `R·erf(cut/√2) ≤ (Σπ − base) + (Σσ − base) ≤ R` -/
theorem paramZeeman_polarised_normalised (F : Fns α) (hf : FloorSpec F.floorI) (hc : CeilSpec F.ceilI) (he : ErfSpec F.erf)
    (h2 : 0 < F.sqrt2) (hsq : SqrtSpec F.sqrt) (K : Consts α) (hK : ConstsPos K) (I : α → α → α → α → α) (cutG cutL : α)
    (hG : 0 ≤ cutG) (al be ga R : α) (e : Env α) (hR : 0 ≤ R) (hwl : 0 < e.wl) (haw : 0 < e.aw) (hts : 0 < e.ts)
    (hd : dot e.dir e.dir ≠ 0) (hp : 0 ≤ F.pow e.ts (2.0 * ga)) (s : Spec α) (hs : WF s)
    (hpi : Spans cutG (paramZeemanComps F K al be ga Pol.pi R e) s)
    (hsg : Spans cutG (paramZeemanComps F K al be ga Pol.sigma R e) s) :
    R * F.erf (cutG / F.sqrt2) ≤
        (integral (addComps F I cutG cutL (paramZeemanComps F K al be ga Pol.pi R e) s) - integral s) +
        (integral (addComps F I cutG cutL (paramZeemanComps F K al be ga Pol.sigma R e) s) - integral s) ∧
      (integral (addComps F I cutG cutL (paramZeemanComps F K al be ga Pol.pi R e) s) - integral s) +
        (integral (addComps F I cutG cutL (paramZeemanComps F K al be ga Pol.sigma R e) s) - integral s) ≤ R := by
  obtain ⟨a1, a2⟩ := model_whole_radiance F hf hc he h2 I cutG cutL hG _
    (paramZeeman_good hsq hK hwl haw hts hp Pol.pi hR) s hs hpi
  obtain ⟨b1, b2⟩ := model_whole_radiance F hf hc he h2 I cutG cutL hG _
    (paramZeeman_good hsq hK hwl haw hts hp Pol.sigma hR) s hs hsg
  -- the two pairs of bounds add up, and the π and σ lists carry `R` between them
  have hsh := paramZeeman_pol_shares F K al be ga R e hts
  constructor
  · linear_combination a1 + b1 - F.erf (cutG / F.sqrt2) * hsh
  · linear_combination a2 + b2 + hsh

/-! ### non-vacuity (α = ℚ, the instance `Fq` of `Props/C02.lean`: `pow = 0` satisfies `0 ≤ pow T (2γ)`) -/

def Kp : Consts ℚ := { amu := 1, echarge := 1, c := 40, hc := 1, muB := 1 / 8 }
example : ConstsPos Kp := ⟨by norm_num [Kp], by norm_num [Kp], by norm_num [Kp]⟩
example : (0 : ℚ) ≤ Fq.pow envq.ts (2.0 * 1) := le_refl _
example : 0 < envq.wl ∧ 0 < envq.aw ∧ 0 < envq.ts ∧ dot envq.dir envq.dir ≠ 0 := by decide +kernel
example : (paramZeemanComps Fq Kp (1 / 2) 3 1 Pol.no 8 envq).length = 3 := by decide +kernel
example : radSum (paramZeemanComps Fq Kp (1 / 2) 3 1 Pol.no 8 envq) = 8 := by decide +kernel
example : ∀ c ∈ paramZeemanComps Fq Kp (1 / 2) 3 1 Pol.no 8 envq, c.lor = false ∧ 0 ≤ c.rad ∧ 0 < c.width := by decide +kernel
/-- the conclusion is attained: the three components lie inside the window and the whole radiance 8 arrives -/
example : integral (addComps Fq (fun _ _ _ _ => 0) 10 50 (paramZeemanComps Fq Kp (1 / 2) 3 1 Pol.no 8 envq) spq)
    = integral spq + 8 := by decide +kernel
example : (integral (addComps Fq (fun _ _ _ _ => 0) 10 50 (paramZeemanComps Fq Kp (1 / 2) 3 1 Pol.pi 8 envq) spq) - integral spq)
    + (integral (addComps Fq (fun _ _ _ _ => 0) 10 50 (paramZeemanComps Fq Kp (1 / 2) 3 1 Pol.sigma 8 envq) spq) - integral spq)
    = 8 := by decide +kernel

end Cherab.Props.C02
