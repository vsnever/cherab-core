import Cherab.Lemmas.Repository

/-!
# C06 — rate repository: last write wins per key, other keys untouched, no stray files

Property theorems about `Cherab.Repository` (Model/Repository.lean), for **every** table `T : Tables` that satisfies the
decidable well-formedness predicate `T.wellFormed`, every history of calls, every input.  That the tables generated
from /repo's current source are well-formed is `decide`d separately, conjunct by conjunct, in `Props/C06Table.lean`,
`C06TableAdd.lean` and `C06TableRoot.lean` (conjunction: `tables_wellformed` in `C06TableAll.lean`).

Clauses of the property sentence → theorems
* "every subsequent read of a key returns exactly the arrays most recently written for that key through the matching
  add or update function, all other keys keep their previous content, a key never written raises RuntimeError"
  → `refines_kv`, `last_write_wins`, `never_written_raises`, `getter_reads_kv`, `beam_cx_getter_reads_kv`,
    `add_matches_update_of_tables`, `stored_arrays_are_inputs`
* "keys are (family, symbol, charge[, donor/metastable][, transition])" → `paths_injective`, `keys_injective`
* "transition levels compared by their lower-cased string form" → `transition_key_iff_lower_equal`
  (needs: no `>` in the upper level strings — `transition_separator_collision` shows the hypothesis cannot be dropped;
  that the source applies exactly `str().lower()` is the table obligation `encode_is_str_lower`, `C06TableEnc.lean`)
* "every file created lies under the repository path that was passed" → `writes_under_root`,
  `dropped_root_escapes` (why `rootPassed` is needed)
* "an update that is rejected for invalid data leaves previously stored keys readable" → `rejected_update_preserves`,
  `call_preserves_or_writes` (every kind of call; old value or a value this call passed), `rejected_call_not_atomic`
  (why not "unchanged"), `accepted_update_every_target_readable` (bulk updates over several / fresh files)
* histories may contain add_*, update_*, install_*, `install_files` and `populate` calls (`Op`; `installFiles_refines`,
  `populate_refines`); `arg_key_iff`: call arguments ↦ key components
-/
namespace Cherab.Props.C06
open Cherab.Repository

inductive Op
  | upd (u : UpdFn) (inp : UpdInput) (root : Option Path)
  | add (a : AddFn) (args : List Arg) (items : List (List Arg × Rate)) (root : Option Path)
  | ins (i : InstallFn) (inps : List UpdInput) (root : Option Path)
  /-- `install_files(configuration, repository_path=root)`: the dispatched `install_*` calls with their parsed data -/
  | files (cfg : List (InstallFn × List UpdInput)) (root : Option Path)
  /-- `repository.populate(repository_path=root)`: `install_files`, then `update_wavelengths` -/
  | populate (cfg : List (InstallFn × List UpdInput)) (wl : UpdInput) (root : Option Path)

def Op.root : Op → Option Path
  | .upd _ _ r => r
  | .add _ _ _ r => r
  | .ins _ _ r => r
  | .files _ r => r
  | .populate _ _ r => r

def Op.isFrontEnd : Op → Bool
  | .files _ _ => true
  | .populate _ _ _ => true
  | _ => false

def Op.run (T : Tables) : Op → FS → Res
  | .upd u inp r => update T u inp r
  | .add a args items r => Repository.add T a args items r
  | .ins i inps r => install T i inps r
  | .files cfg r => installFiles T cfg r
  | .populate cfg wl r => Repository.populate T cfg wl r

/-- a history: every call runs on the file system the previous one left (an exception aborts only its own call) -/
def runOps (T : Tables) (ops : List Op) (fs : FS) : FS := ops.foldl (fun fs op => (op.run T fs).1) fs

/-- point updates of a front-end: its `update_*` calls in order, up to the first rejected one -/
def insPuts (T : Tables) : List (UpdFn × Bool) → List UpdInput → List (Key × Val) × Option Err
  | (u, _) :: cs, inp :: inps =>
    match (updPuts T u (u.prep T inp)).2 with
    | none => ((updPuts T u (u.prep T inp)).1 ++ (insPuts T cs inps).1, (insPuts T cs inps).2)
    | some e => ((updPuts T u (u.prep T inp)).1, some e)
  | _, _ => ([], none)

/-- point updates of `install_files`: its `install_*` calls in dispatch order, up to the first rejected one -/
def filesPuts (T : Tables) : List (InstallFn × List UpdInput) → List (Key × Val) × Option Err
  | [] => ([], none)
  | (i, inps) :: rest =>
    match (insPuts T (T.installCalls i) inps).2 with
    | none => ((insPuts T (T.installCalls i) inps).1 ++ (filesPuts T rest).1, (filesPuts T rest).2)
    | some e => ((insPuts T (T.installCalls i) inps).1, some e)

/-- point updates of `populate`: those of `install_files`, then (if none was rejected) those of `update_wavelengths` -/
def populatePuts (T : Tables) (cfg : List (InstallFn × List UpdInput)) (wl : UpdInput) : List (Key × Val) × Option Err :=
  match (filesPuts T cfg).2 with
  | none => ((filesPuts T cfg).1 ++ (updPuts T .wavelength (UpdFn.prep T .wavelength wl)).1,
             (updPuts T .wavelength (UpdFn.prep T .wavelength wl)).2)
  | some e => ((filesPuts T cfg).1, some e)

/-- **the abstract specification** of one call on the key → value map: a list of point updates and an outcome, both
computed from the call's arguments alone.  `add_y` is the update of the family it is named after.  (`prep` is the
identity, except for `update_pec_rates` while the table flag `pecReindexes` is set: see `Model/Repository.lean`.) -/
def Op.puts (T : Tables) : Op → List (Key × Val) × Option Err
  | .upd u inp _ => updPuts T u (u.prep T inp)
  | .add a args items _ => updPuts T a.own (a.wrap T args items)
  | .ins i inps _ => insPuts T (T.installCalls i) inps
  | .files cfg _ => filesPuts T cfg
  | .populate cfg wl _ => populatePuts T cfg wl

def specRun (T : Tables) (ops : List Op) (m : KV) : KV := ops.foldl (fun m op => applyPuts (op.puts T).1 m) m

def insTyped : List (UpdFn × Bool) → List UpdInput → Prop
  | (u, _) :: cs, inp :: inps => InputTyped u inp ∧ insTyped cs inps
  | _, _ => True

/-- key parts are of the right type (integer charges/metastables, class strings, transition pairs); rate data, species
validity and charge ranges are arbitrary -/
def Op.Typed (T : Tables) : Op → Prop
  | .upd u inp _ => InputTyped u inp
  | .add a args items _ => InputTyped a.own (a.wrap T args items)
  | .ins i inps _ => insTyped (T.installCalls i) inps
  | .files cfg _ => ∀ c ∈ cfg, insTyped (T.installCalls c.1) c.2
  | .populate cfg wl _ => (∀ c ∈ cfg, insTyped (T.installCalls c.1) c.2) ∧ InputTyped .wavelength wl

theorem wellFormed_iff (T : Tables) : T.wellFormed = true ↔
    T.addMatches = true ∧ T.getMatches = true ∧ T.shapesOk = true ∧ T.disjointOk = true ∧ T.rootPassed = true := by
  simp [Tables.wellFormed, Bool.and_eq_true, and_assoc]

theorem installSeq_refines (T : Tables) (hS : T.shapesOk = true) (hD : T.disjointOk = true) (root : Option Path)
    (k : Key) (hk : k.ok = true) (calls : List (UpdFn × Bool)) (hall : ∀ c ∈ calls, c.2 = true) :
    ∀ (inps : List UpdInput) (fs : FS), insTyped calls inps →
    RefinesAt T (resolve root) k fs (installSeq T calls inps root fs) (insPuts T calls inps) := by
  induction calls with
  | nil => intro _ _ _; exact ⟨rfl, rfl⟩
  | cons c cs ih =>
    intro inps fs ht
    obtain ⟨u, b⟩ := c
    cases inps with
    | nil => exact ⟨rfl, rfl⟩
    | cons inp inps =>
      obtain rfl : b = true := hall (u, b) (List.mem_cons_self ..)
      exact (update_refines T hS hD u inp ht.1 root fs k hk).bind
        (ih (fun c h => hall c (List.mem_cons_of_mem _ h)) inps · ht.2)

theorem installFiles_refines (T : Tables) (hW : T.wellFormed = true) (root : Option Path) (k : Key) (hk : k.ok = true) :
    ∀ (cfg : List (InstallFn × List UpdInput)) (fs : FS), (∀ c ∈ cfg, insTyped (T.installCalls c.1) c.2) →
    (installFiles T cfg root fs).2 = (filesPuts T cfg).2 ∧
    absView T (resolve root) (installFiles T cfg root fs).1.at k
      = applyPuts (filesPuts T cfg).1 (absView T (resolve root) fs.at) k := by
  obtain ⟨_, _, hS, hD, hR⟩ := (wellFormed_iff T).mp hW
  intro cfg
  induction cfg with
  | nil => intro fs _; exact ⟨rfl, rfl⟩
  | cons c cs ih =>
    intro fs ht
    rw [installFiles_cons, passes_of_rootPassed T hR, if_pos rfl]
    exact (installSeq_refines T hS hD root k hk _ (rootPassed_of T hR c.1) c.2 fs (ht c (List.mem_cons_self ..))).bind
      fun fs' => ih fs' fun c' h => ht c' (List.mem_cons_of_mem _ h)

theorem populate_refines (T : Tables) (hW : T.wellFormed = true) (root : Option Path) (k : Key) (hk : k.ok = true)
    (cfg : List (InstallFn × List UpdInput)) (wl : UpdInput) (fs : FS)
    (ht : (∀ c ∈ cfg, insTyped (T.installCalls c.1) c.2) ∧ InputTyped .wavelength wl) :
    (Repository.populate T cfg wl root fs).2 = (populatePuts T cfg wl).2 ∧
    absView T (resolve root) (Repository.populate T cfg wl root fs).1.at k
      = applyPuts (populatePuts T cfg wl).1 (absView T (resolve root) fs.at) k := by
  obtain ⟨_, _, hS, hD, hR⟩ := (wellFormed_iff T).mp hW
  rw [populate_eq, passes_of_rootPassed T hR, passes_of_rootPassed T hR, if_pos rfl]
  exact RefinesAt.bind (installFiles_refines T hW root k hk cfg fs ht.1) fun fs' =>
    update_refines T hS hD .wavelength wl ht.2 root fs' k hk

theorem op_refines (T : Tables) (hW : T.wellFormed = true) (op : Op) (hT : op.Typed T) (fs : FS) (k : Key)
    (hk : k.ok = true) :
    (op.run T fs).2 = (op.puts T).2 ∧
    absView T (resolve op.root) (op.run T fs).1.at k
      = applyPuts (op.puts T).1 (absView T (resolve op.root) fs.at) k := by
  obtain ⟨hA, _, hS, hD, hR⟩ := (wellFormed_iff T).mp hW
  cases op with
  | upd u inp r => exact update_refines T hS hD u inp hT r fs k hk
  | add a args items r =>
    obtain ⟨h1, h2, _⟩ := addMatches_of T hA a
    simp only [Op.run, Repository.add, h1, h2]
    exact entries_refine T hS hD (resolve r) a.own k hk _ hT fs
  | ins i inps r =>
    exact installSeq_refines T hS hD r k hk _ (rootPassed_of T hR i) inps fs hT
  | files cfg r => exact installFiles_refines T hW r k hk cfg fs hT
  | populate cfg wl r => exact populate_refines T hW r k hk cfg wl fs hT

theorem specRun_congr (T : Tables) (ops : List Op) (m m' : KV) (k : Key) (h : m k = m' k) :
    specRun T ops m k = specRun T ops m' k := by
  induction ops generalizing m m' with
  | nil => exact h
  | cons op ops ih => exact ih _ _ (applyPuts_congr _ _ _ _ h)

/-- **`refines_kv`** — for every history of add/update/install calls on the repository at `R`, the getters' view of the
file system is the key → value map obtained by replaying the calls' point updates, in order, on the initial map.
(Point updates ⇒ the last write to a key wins and every other key keeps its content.) -/
theorem refines_kv (T : Tables) (hW : T.wellFormed = true) (R : Path) (ops : List Op)
    (hT : ∀ op ∈ ops, op.Typed T ∧ resolve op.root = R) (fs : FS) (k : Key) (hk : k.ok = true) :
    absView T R (runOps T ops fs).at k = specRun T ops (absView T R fs.at) k := by
  induction ops generalizing fs with
  | nil => rfl
  | cons op ops ih =>
    obtain ⟨ht, hr⟩ := hT op (List.mem_cons_self ..)
    exact (ih (fun op' h => hT op' (List.mem_cons_of_mem _ h)) (op.run T fs).1).trans
      (specRun_congr T ops _ _ k (hr ▸ (op_refines T hW op ht fs k hk).2))

/-- outcome (ok / which exception) of every call is the specification's -/
theorem outcome_refines (T : Tables) (hW : T.wellFormed = true) (op : Op) (hT : op.Typed T) (fs : FS) :
    (op.run T fs).2 = (op.puts T).2 :=
  -- the outcome half of `op_refines` does not mention the key: any well-kinded key serves
  (op_refines T hW op hT fs ⟨.ionisation, [.sym ""], [.num 0]⟩ (by decide)).1

/-- all point updates of a history, in order -/
def allPuts (T : Tables) (ops : List Op) : List (Key × Val) := ops.flatMap fun op => (op.puts T).1

theorem specRun_eq (T : Tables) (ops : List Op) (m : KV) : specRun T ops m = applyPuts (allPuts T ops) m := by
  induction ops generalizing m with
  | nil => rfl
  | cons op ops ih =>
    simp only [specRun, List.foldl_cons, allPuts, List.flatMap_cons, applyPuts_append]
    exact ih _

/-- **last write wins, other keys untouched**: after any history, a key holds the value of the last point update made
to it, and the value it had initially if no call updated it -/
theorem last_write_wins (T : Tables) (hW : T.wellFormed = true) (R : Path) (ops : List Op)
    (hT : ∀ op ∈ ops, op.Typed T ∧ resolve op.root = R) (fs : FS) (k : Key) (hk : k.ok = true) :
    absView T R (runOps T ops fs).at k =
      match lastWrite (allPuts T ops) k with
      | some v => some v
      | none => absView T R fs.at k := by
  rw [refines_kv T hW R ops hT fs k hk, specRun_eq, applyPuts_lastWrite]
  cases lastWrite (allPuts T ops) k <;> rfl

theorem absView_empty (T : Tables) (R : Path) (k : Key) : absView T R (FS.at []) k = none := by
  unfold absView; cases k.loc T R <;> rfl

/-- **a key never written raises RuntimeError**: starting from the empty repository, a key that no call updated has no
value; the keyed getters then raise RuntimeError (`getter_reads_kv`) -/
theorem never_written_raises (T : Tables) (hW : T.wellFormed = true) (R : Path) (ops : List Op)
    (hT : ∀ op ∈ ops, op.Typed T ∧ resolve op.root = R) (k : Key) (hk : k.ok = true)
    (hn : k ∉ (allPuts T ops).map Prod.fst) : absView T R (runOps T ops []).at k = none := by
  rw [last_write_wins T hW R ops hT [] k hk, lastWrite_eq_none_iff.mpr hn]
  exact absView_empty T R k

/-- the keyed getters (all but beam CX) return the map's value at the requested key — or RuntimeError if it has
none, AttributeError if an argument has no `.symbol` -/
theorem getter_reads_kv (T : Tables) (hW : T.wellFormed = true) (g : GetFn) (hg : g.own.getKind = .keyed)
    (args : List Arg) (root : Option Path) (fs : FS) :
    get T g args root fs =
      match (getKey g args).loc T (resolve root) with
      | none => .error .attributeError
      | some _ =>
        match absView T (resolve root) fs.at (getKey g args) with
        | some v => .ok [(renderIKey (getKey g args).inner, v)]
        | none => .error .runtimeError := by
  obtain ⟨_, hG, _, _, _⟩ := (wellFormed_iff T).mp hW
  exact get_keyed T hG g hg args root fs

/-- `get_beam_cx_rates` returns every stored metastable of the transition, and raises RuntimeError exactly when none
is stored -/
theorem beam_cx_getter_reads_kv (T : Tables) (hW : T.wellFormed = true) (g : GetFn) (hg : g.own.getKind = .prefixed)
    (args : List Arg) (root : Option Path) (fs : FS) (l : Path × IKey)
    (hl : (getKey g args).loc T (resolve root) = some l) :
    (∀ r, get T g args root fs = .ok r → ∀ ik : IKey, ik.head? = l.2.head? → alookup ik r = fs.at l.1 ik) ∧
    (get T g args root fs = .error .runtimeError ↔ ∀ ik : IKey, ik.head? = l.2.head? → fs.at l.1 ik = none) := by
  obtain ⟨_, hG, _, _, _⟩ := (wellFormed_iff T).mp hW
  exact get_prefixed T hG g hg args root fs l hl

/-- a call that is not rejected updates every key it addresses (and only those), with the validated rate passed for it -/
theorem accepted_update_writes_all (T : Tables) (u : UpdFn) (inp : UpdInput) (h : (updPuts T u inp).2 = none) :
    (updPuts T u inp).1.map Prod.fst = targets u inp ∧
    ∀ kv ∈ (updPuts T u inp).1, ∃ e ∈ inp, ∃ it ∈ e.inner,
      kv.1 = ⟨u, u.normArgs e.args, it.1.map Arg.norm⟩ ∧ u.validate it.2 = .ok kv.2 :=
  ⟨updPuts_complete T u inp h, updPuts_sub T u inp⟩

/-- `a` is literally the outcome of one of the two conversions of an object the caller passed -/
def ArrIn (r : Rate) (a : Arr) : Prop := ∃ n x, alookup n r = some x ∧ (x.arr = .ok a ∨ x.flt = .ok a)

def Yields {α : Type} (P : α → Prop) (x : Except Err α) : Prop := ∀ a, x = .ok a → P a

theorem Yields.bind {α β : Type} {P : α → Prop} {Q : β → Prop} {x : Except Err α} {f : α → Except Err β}
    (hx : Yields P x) (hf : ∀ a, P a → Yields Q (f a)) : Yields Q (x >>= f) := by
  intro b h
  cases x with
  | error e => cases h
  | ok a => exact hf a (hx a rfl) b h

theorem yields_pure {α : Type} {P : α → Prop} {a : α} (h : P a) : Yields P (pure a : Except Err α) :=
  fun _ e => by cases e; exact h

theorem yields_guard {c : Bool} {e : Err} : Yields (fun _ => True) (guardE c e) := fun _ _ => trivial

theorem field_ok (r : Rate) (n : String) : Yields (ArrIn r) (field r n) := by
  intro a h
  unfold field at h; split at h
  · next x h' => exact ⟨n, x, h', Or.inl h⟩
  · cases h

theorem fieldF_ok (r : Rate) (n : String) : Yields (ArrIn r) (fieldF r n) := by
  intro a h
  unfold fieldF at h; split at h
  · next x h' => exact ⟨n, x, h', Or.inr h⟩
  · cases h

theorem pairCheck_ok (r : Rate) (x y : String) : Yields (fun p => ArrIn r p.1 ∧ ArrIn r p.2) (pairCheck r x y) :=
  (field_ok r x).bind fun _ ha => (field_ok r y).bind fun _ hb =>
  yields_guard.bind fun _ _ => yields_guard.bind fun _ _ => yields_guard.bind fun _ _ => yields_pure ⟨ha, hb⟩

theorem validateAdf11_ok (r : Rate) : Yields (fun v => ∀ na ∈ v, ArrIn r na.2) (validateAdf11 r) :=
  (field_ok r _).bind fun _ h1 => (field_ok r _).bind fun _ h2 => (field_ok r _).bind fun _ h3 =>
  yields_guard.bind fun _ _ => yields_guard.bind fun _ _ => yields_guard.bind fun _ _ =>
  yields_pure (by simp only [List.forall_mem_cons]; exact ⟨h1, h2, h3, nofun⟩)

theorem validatePec_ok (r : Rate) : Yields (fun v => ∀ na ∈ v, ArrIn r na.2) (validatePec r) :=
  (field_ok r _).bind fun _ h1 => (field_ok r _).bind fun _ h2 => (field_ok r _).bind fun _ h3 =>
  yields_guard.bind fun _ _ => yields_guard.bind fun _ _ => yields_guard.bind fun _ _ =>
  yields_pure (by simp only [List.forall_mem_cons]; exact ⟨h1, h2, h3, nofun⟩)

theorem validatePecThermalCx_ok (r : Rate) : Yields (fun v => ∀ na ∈ v, ArrIn r na.2) (validatePecThermalCx r) :=
  (field_ok r _).bind fun _ h1 => (field_ok r _).bind fun _ h2 => (field_ok r _).bind fun _ h3 =>
  (field_ok r _).bind fun _ h4 =>
  yields_guard.bind fun _ _ => yields_guard.bind fun _ _ => yields_guard.bind fun _ _ => yields_guard.bind fun _ _ =>
  yields_pure (by simp only [List.forall_mem_cons]; exact ⟨h1, h2, h3, h4, nofun⟩)

theorem validateWavelength_ok (r : Rate) : Yields (fun v => ∀ na ∈ v, ArrIn r na.2) (validateWavelength r) :=
  (fieldF_ok r _).bind fun _ h1 => yields_pure (by simp only [List.forall_mem_cons]; exact ⟨h1, nofun⟩)

theorem validateBeamCx_ok (r : Rate) : Yields (fun v => ∀ na ∈ v, ArrIn r na.2) (validateBeamCx r) :=
  (fieldF_ok r _).bind fun _ h0 => (pairCheck_ok r _ _).bind fun _ p1 => (pairCheck_ok r _ _).bind fun _ p2 =>
  (pairCheck_ok r _ _).bind fun _ p3 => (pairCheck_ok r _ _).bind fun _ p4 =>
  (pairCheck_ok r _ _).bind fun _ p5 =>
  yields_pure (by
    simp only [List.forall_mem_cons]
    exact ⟨p1.1, p2.1, p3.1, p4.1, p5.1, h0, p1.2, p2.2, p3.2, p4.2, p5.2, nofun⟩)

theorem validateBeamRate_ok (r : Rate) : Yields (fun v => ∀ na ∈ v, ArrIn r na.2) (validateBeamRate r) :=
  (field_ok r _).bind fun _ h1 => (field_ok r _).bind fun _ h2 => (field_ok r _).bind fun _ h3 =>
  (field_ok r _).bind fun _ h4 => (field_ok r _).bind fun _ h5 =>
  yields_guard.bind fun _ _ => yields_guard.bind fun _ _ => yields_guard.bind fun _ _ => yields_guard.bind fun _ _ =>
  yields_guard.bind fun _ _ =>
  (fieldF_ok r _).bind fun _ r1 => (fieldF_ok r _).bind fun _ r2 => (fieldF_ok r _).bind fun _ r3 =>
  (fieldF_ok r _).bind fun _ r4 =>
  yields_pure (by simp only [List.forall_mem_cons]; exact ⟨h1, h2, h3, h4, h5, r1, r2, r3, r4, nofun⟩)

/-- **bit for bit**: every array of a stored value is the NumPy / `float` conversion of one of the objects of the rate
dictionary that was passed (validation only converts, selects and renames — `'rates'` is stored as `'rate'` — it never
recomputes) -/
theorem stored_arrays_are_inputs (u : UpdFn) (r : Rate) (v : Val) (h : u.validate r = .ok v) :
    ∀ na ∈ v, ArrIn r na.2 := by
  cases u
  case pec => exact validatePec_ok r v h
  case pecThermalCx => exact validatePecThermalCx_ok r v h
  case wavelength => exact validateWavelength_ok r v h
  case beamCx => exact validateBeamCx_ok r v h
  case beamStopping | beamPopulation | beamEmission => exact validateBeamRate_ok r v h
  all_goals exact validateAdf11_ok r v h

/-- **`paths_injective`**: two well-kinded keys stored in the same file have the same family and the same
file-selecting components (symbols up to case, charges, class) -/
theorem paths_injective (T : Tables) (hW : T.wellFormed = true) (R : Path) (k k' : Key) (hk : k.ok = true)
    (hk' : k'.ok = true) (p : Path) (i i' : IKey) (h : k.loc T R = some (p, i)) (h' : k'.loc T R = some (p, i')) :
    k.fam = k'.fam ∧ k.args = k'.args := by
  obtain ⟨_, _, hS, hD, _⟩ := (wellFormed_iff T).mp hW
  exact path_inj T hS hD R k k' hk hk' p i i' h h'

/-- distinct well-kinded keys never share a (file, inner key) location -/
theorem keys_injective (T : Tables) (hW : T.wellFormed = true) (R : Path) (k k' : Key) (hk : k.ok = true)
    (hk' : k'.ok = true) (l : Path × IKey) (h : k.loc T R = some l) (h' : k'.loc T R = some l) : k = k' := by
  obtain ⟨_, _, hS, hD, _⟩ := (wellFormed_iff T).mp hW
  exact loc_inj T hS hD R k k' hk hk' l h h'

/-- **`transition_key_iff_lower_equal`**: two transitions have the same key iff their levels agree after `str()` and
lower-casing — provided the (lower-cased) upper levels do not contain `>` -/
theorem transition_key_iff_lower_equal (u l u' l' : Level) (h : '>' ∉ (lower u.render).toList)
    (h' : '>' ∉ (lower u'.render).toList) :
    encodeTransition u l = encodeTransition u' l' ↔
      lower u.render = lower u'.render ∧ lower l.render = lower l'.render := by
  constructor
  · exact join_inj _ _ _ _ h h'
  · rintro ⟨e1, e2⟩; unfold encodeTransition; rw [e1, e2]

theorem lower_lit1 : lower "a -> b" = "a -> b" := lower_eq_of_toList (by simp)
theorem lower_lit2 : lower "c" = "c" := lower_eq_of_toList (by simp)
theorem lower_lit3 : lower "a" = "a" := lower_eq_of_toList (by simp)
theorem lower_lit4 : lower "b -> c" = "b -> c" := lower_eq_of_toList (by simp)

/-- the hypothesis of `transition_key_iff_lower_equal` cannot be dropped: the model (like
`utility.encode_transition`) gives `('a -> b', 'c')` and `('a', 'b -> c')` the same key -/
theorem transition_separator_collision :
    encodeTransition (.str "a -> b") (.str "c") = encodeTransition (.str "a") (.str "b -> c") ∧
    ¬ (lower (Level.str "a -> b").render = lower (Level.str "a").render) := by
  simp only [encodeTransition, Level.render, lower_lit1, lower_lit2, lower_lit3, lower_lit4]
  decide

/-- the key of a transition is injective modulo **exactly** `str().lower()`: leading / trailing padding and inner double
spaces are significant, `3` and `'3'` are one key (instances of `transition_key_iff_lower_equal`;
the table obligation `encode_is_str_lower` pins that the source applies nothing but `str` and `lower`) -/
theorem padding_and_spacing_are_significant :
    encodeTransition (.str " a") (.str "c") ≠ encodeTransition (.str "a") (.str "c") ∧
    encodeTransition (.str "a ") (.str "c") ≠ encodeTransition (.str "a") (.str "c") ∧
    encodeTransition (.str "a  b") (.str "c") ≠ encodeTransition (.str "a b") (.str "c") ∧
    encodeTransition (.int 3) (.str "c") = encodeTransition (.str "3") (.str "c") := by
  decide +kernel

/-- call arguments ↦ key components, made explicit: two transition arguments give the same key component iff their levels
agree after `str().lower()` (no `>` in the upper levels — `transition_separator_collision` is the proved negation without
it); two Element arguments iff their symbols agree after lower-casing; integer arguments iff equal -/
theorem arg_key_iff :
    (∀ u l u' l', '>' ∉ (lower u.render).toList → '>' ∉ (lower u'.render).toList →
      (Arg.norm (.tr u l) = Arg.norm (.tr u' l') ↔ lower u.render = lower u'.render ∧ lower l.render = lower l'.render)) ∧
    (∀ s s' : Species, s.isElement = true → s'.isElement = true →
      (Arg.norm (.sp s) = Arg.norm (.sp s') ↔ lower s.symbol = lower s'.symbol)) ∧
    (∀ n m : Int, Arg.norm (.num n) = Arg.norm (.num m) ↔ n = m) := by
  refine ⟨?_, ?_, ?_⟩
  · intro u l u' l' h h'
    simp only [Arg.norm, KArg.tr.injEq]
    exact transition_key_iff_lower_equal u l u' l' h h'
  · intro s s' hs hs'
    simp [Arg.norm, hs, hs']
  · intro n m; simp [Arg.norm]

/-- **every call, accepted or rejected at any point** (add_*, update_*, install_*, install_files, populate): afterwards
each key holds either exactly the value it held before, or a value this very call passed (and validated) for that key;
in particular a key that was readable stays readable, and a key the call makes no point update for is untouched.
(Full "a rejected call leaves the repository unchanged" is *false* of the code and of the model — the ADF11-type writers
store charge by charge: `rejected_call_not_atomic`.) -/
theorem call_preserves_or_writes (T : Tables) (hW : T.wellFormed = true) (op : Op) (hT : op.Typed T) (fs : FS) (k : Key)
    (hk : k.ok = true) :
    (absView T (resolve op.root) (op.run T fs).1.at k = absView T (resolve op.root) fs.at k ∨
      ∃ v, (k, v) ∈ (op.puts T).1 ∧ absView T (resolve op.root) (op.run T fs).1.at k = some v) ∧
    ((absView T (resolve op.root) fs.at k).isSome = true →
      (absView T (resolve op.root) (op.run T fs).1.at k).isSome = true) ∧
    (k ∉ (op.puts T).1.map Prod.fst →
      absView T (resolve op.root) (op.run T fs).1.at k = absView T (resolve op.root) fs.at k) := by
  have h := (op_refines T hW op hT fs k hk).2
  refine ⟨?_, ?_, ?_⟩
  · rw [h, applyPuts_lastWrite]
    cases hl : lastWrite (op.puts T).1 k with
    | none => exact Or.inl rfl
    | some v => exact Or.inr ⟨v, lastWrite_mem _ _ _ hl, rfl⟩
  · intro hs; rw [h]; exact applyPuts_isSome _ _ _ hs
  · intro hn; rw [h]; exact applyPuts_not_mem _ _ _ hn

/-- **`rejected_update_preserves`**: whatever an `update_*` call does — accepted, or rejected at any point for invalid
data — a key it does not address keeps its value, and every key that was readable stays readable. -/
theorem rejected_update_preserves (T : Tables) (hW : T.wellFormed = true) (u : UpdFn) (inp : UpdInput)
    (hT : InputTyped u inp) (root : Option Path) (fs : FS) (k : Key) (hk : k.ok = true) :
    (k ∉ targets u inp →
      absView T (resolve root) (update T u inp root fs).1.at k = absView T (resolve root) fs.at k) ∧
    ((absView T (resolve root) fs.at k).isSome = true →
      (absView T (resolve root) (update T u inp root fs).1.at k).isSome = true) := by
  obtain ⟨-, h2, h3⟩ := call_preserves_or_writes T hW (.upd u inp root) hT fs k hk
  exact ⟨fun hn => h3 fun hm => hn (targets_prep T u inp ▸ updPuts_keys_sub T u _ k hm), h2⟩

/-- **bulk updates, any number of files, fresh or existing**: after an `update_*` call that is not rejected, *every* key the
nested dictionary addresses is readable (no entry is dropped: "only the last charge written"), and every other key —
in the same file, in another file of the call, in any other family — is untouched (nothing leaks from one file's content
into the next) -/
theorem accepted_update_every_target_readable (T : Tables) (hW : T.wellFormed = true) (u : UpdFn) (inp : UpdInput)
    (hT : InputTyped u inp) (root : Option Path) (fs : FS) (hacc : (update T u inp root fs).2 = none) (k : Key)
    (hk : k.ok = true) :
    (k ∈ targets u inp → ∃ v, (k, v) ∈ (updPuts T u (u.prep T inp)).1 ∧
        absView T (resolve root) (update T u inp root fs).1.at k = some v) ∧
    (k ∉ targets u inp → absView T (resolve root) (update T u inp root fs).1.at k = absView T (resolve root) fs.at k) := by
  obtain ⟨_, _, hS, hD, _⟩ := (wellFormed_iff T).mp hW
  obtain ⟨h1, h2⟩ := update_refines T hS hD u inp hT root fs k hk
  have hkeys : (updPuts T u (u.prep T inp)).1.map Prod.fst = targets u inp :=
    targets_prep T u inp ▸ updPuts_complete T u (u.prep T inp) (h1 ▸ hacc)
  rw [h2, applyPuts_lastWrite]
  constructor
  · intro hmem
    cases hl : lastWrite (updPuts T u (u.prep T inp)).1 k with
    | none => exact absurd (hkeys ▸ hmem) (lastWrite_eq_none_iff.mp hl)
    | some v => exact ⟨v, lastWrite_mem _ _ _ hl, rfl⟩
  · intro hn
    rw [lastWrite_eq_none_iff.mpr (hkeys ▸ hn)]

/-- **`writes_under_root`**: no call creates, modifies or removes a file that is not under the repository path it was
given — for `update_*` and `add_*` unconditionally, for an `install_*` front-end when the tables say that each of its
`repository.update_*` calls receives `repository_path` (`hR`), for `install_files` and `populate` when `T.rootPassed` (`hF`) -/
theorem writes_under_root (T : Tables) (op : Op) (hR : ∀ i inps r, op = .ins i inps r → ∀ c ∈ T.installCalls i, c.2 = true)
    (hF : op.isFrontEnd = true → T.rootPassed = true)
    (fs : FS) (p : Path) (hp : ¬ resolve op.root <+: p) : (op.run T fs).1.read p = fs.read p := by
  cases op with
  | upd u inp r => exact update_read T u inp r fs p hp
  | add a args items r => exact add_read T a args items r fs p hp
  | ins i inps r => exact installSeq_read T r p hp _ (hR i inps r rfl) inps fs
  | files cfg r => exact installFiles_read T (hF rfl) r p hp cfg fs
  | populate cfg wl r => exact populate_read T (hF rfl) cfg wl r fs p hp

theorem writes_under_root_of_tables (T : Tables) (hW : T.wellFormed = true) (op : Op) (fs : FS) (p : Path)
    (hp : ¬ resolve op.root <+: p) : (op.run T fs).1.read p = fs.read p := by
  obtain ⟨_, _, _, _, hR⟩ := (wellFormed_iff T).mp hW
  exact writes_under_root T op (fun i _ _ _ => rootPassed_of T hR i) (fun _ => hR) fs p hp

/-- the `.files` and `.populate` cases of `writes_under_root_of_tables`, stated on the model functions `installFiles`
and `populate` themselves -/
theorem front_ends_write_under_root (T : Tables) (hW : T.wellFormed = true) (cfg : List (InstallFn × List UpdInput))
    (wl : UpdInput) (root : Option Path) (fs : FS) (p : Path) (hp : ¬ resolve root <+: p) :
    (installFiles T cfg root fs).1.read p = fs.read p ∧ (populate T cfg wl root fs).1.read p = fs.read p :=
  ⟨writes_under_root_of_tables T hW (.files cfg root) fs p hp,
   writes_under_root_of_tables T hW (.populate cfg wl root) fs p hp⟩

/-- **`add_matches_update`** (generic half): with well-formed tables `add_y(args…, rate, root)` is
`update_<family of y>` applied to the one-entry dictionary `wrap` builds, with the class string `y` is named after -/
theorem add_matches_update_of_tables (T : Tables) (hW : T.wellFormed = true) (a : AddFn) (args : List Arg)
    (items : List (List Arg × Rate)) (root : Option Path) (fs : FS) :
    add T a args items root fs = update T a.own (a.wrap T args items) root fs ∧ (a.wrap T args items).length ≤ 1 ∧
    T.addFixed a = a.ownFixed := by
  obtain ⟨hA, _, _, _, _⟩ := (wellFormed_iff T).mp hW
  refine ⟨add_eq_update T hA a args items root fs, ?_, (addMatches_of T hA a).2.2⟩
  rcases wrap_shape T a args items with h | ⟨e, h, _⟩ <;> rw [h]
  · exact Nat.zero_le 1
  · exact Nat.le_refl 1

/-- if the tables route `add_y` into the code and file of another family `u' ≠ own y` (`add_continuum_power_rate`
→ `update_line_power_rates`, say), the call changes **no** key of its own family: the getter named after it never
sees what was added -/
theorem misrouted_add_never_updates_own_family (T : Tables) (hS : T.shapesOk = true) (hD : T.disjointOk = true)
    (a : AddFn) (u' : UpdFn) (h1 : T.famOfAdd a = u') (h2 : T.tmplOfAdd a = T.tmplOfUpd u') (hne : u' ≠ a.own)
    (args : List Arg) (items : List (List Arg × Rate)) (hT : InputTyped u' (a.wrap T args items))
    (root : Option Path) (fs : FS) (k : Key) (hk : k.ok = true) (hf : k.fam = a.own) :
    absView T (resolve root) (add T a args items root fs).1.at k = absView T (resolve root) fs.at k := by
  unfold add
  rw [h1, h2, (entries_refine T hS hD (resolve root) u' k hk _ hT fs).2]
  apply applyPuts_not_mem
  intro hm
  simp only [List.mem_map] at hm
  obtain ⟨kv, hkv, rfl⟩ := hm
  obtain ⟨_, _, _, _, h3, _⟩ := updPuts_sub T u' _ kv hkv
  rw [h3] at hf
  exact hne hf

/-- a front-end whose table entry drops `repository_path` (`install_adf15` for thermal-CX PECs, say) runs that
update on the *default* repository: the repository that was passed receives nothing from it -/
theorem dropped_root_escapes (T : Tables) (u : UpdFn) (inp : UpdInput) (R : Path) (fs : FS) :
    installSeq T [(u, false)] [inp] (some R) fs = update T u inp none fs ∧
    ∀ p, ¬ defaultRoot <+: p → (installSeq T [(u, false)] [inp] (some R) fs).1.read p = fs.read p := by
  have e : installSeq T [(u, false)] [inp] (some R) fs = update T u inp none fs := by
    simp only [installSeq, Bool.false_eq_true, if_false]
    rcases update T u inp none fs with ⟨fs', o⟩
    cases o <;> rfl
  refine ⟨e, fun p hp => ?_⟩
  rw [e]; exact update_read T u inp none fs p hp

/-- for dictionaries whose class keys are lower-case (the documented `'excitation'`, `'recombination'`), and for every
family other than PEC, `update_x` iterates exactly the dictionary it was given: the specification `Op.puts` is about the
rates that were passed -/
theorem prep_id_of_lower_classes (T : Tables) (u : UpdFn) (inp : UpdInput)
    (h : ∀ e ∈ inp, ∀ c rest, e.args = .str c :: rest → lower c = c) : u.prep T inp = inp :=
  prep_eq_self T u inp fun _ => h

/-- … and for every dictionary when the table flag is off (the source fetches `transitions[transition]`, pec.py:177) -/
theorem prep_id_of_tables (T : Tables) (h : T.pecReindexes = false) (u : UpdFn) (inp : UpdInput) :
    u.prep T inp = inp := by
  cases u <;> simp [UpdFn.prep, h]

theorem lower_RECOMBINATION : lower "RECOMBINATION" = "recombination" := lower_eq_of_toList (by simp)

/-- why `pecReindexes` matters: while it is set, a call that carries both spellings of a class stores, for the entry
spelled in upper case, the rate of the *lower-case* entry — the rate `B` passed for it is never stored -/
theorem pec_mixed_case_class_reads_other_entry (e q t : Arg) (A B : Rate) :
    pecReindex [⟨[.str "recombination", e, q], [([t], A)]⟩, ⟨[.str "RECOMBINATION", e, q], [([t], B)]⟩]
      = [⟨[.str "recombination", e, q], [([t], A)]⟩, ⟨[.str "RECOMBINATION", e, q], [([t], A)]⟩] := by
  simp [pecReindex, lower_RECOMBINATION, lower_recombination, alookup]

/-- the tables of a source in which every `add_y` delegates to the family it is named after and every front-end hands
`repository_path` on (neither slip of `misrouted_add_never_updates_own_family` / `dropped_root_escapes`) -/
def idealTables : Tables where
  updWrites
    | .ionisation => some ⟨["ionisation"], [.symLower], ".json"⟩
    | .recombination => some ⟨["recombination"], [.symLower], ".json"⟩
    | .thermalCx => some ⟨["thermal_cx"], [.symLower, .raw, .symLower], ".json"⟩
    | .linePower => some ⟨["radiated_power", "line"], [.symLower], ".json"⟩
    | .continuumPower => some ⟨["radiated_power", "continuum"], [.symLower], ".json"⟩
    | .cxPower => some ⟨["radiated_power", "cx"], [.symLower], ".json"⟩
    | .pec => some ⟨["pec"], [.raw, .symLower, .raw], ".json"⟩
    | .pecThermalCx => some ⟨["pec", "thermal_cx"], [.symLower, .raw, .symLower, .raw], ".json"⟩
    | .wavelength => some ⟨["wavelength"], [.symLower, .raw], ".json"⟩
    | .beamCx => some ⟨["beam", "cx"], [.symLower, .symLower, .raw], ".json"⟩
    | .beamEmission => some ⟨["beam", "emission"], [.symLower, .symLower, .raw], ".json"⟩
    | _ => none
  updCalls
    | .beamStopping => some .beamStopping
    | .beamPopulation => some .beamPopulation
    | _ => none
  addWrites
    | .beamStopping => some ⟨["beam", "stopping"], [.symLower, .symLower, .raw], ".json"⟩
    | .beamPopulation => some ⟨["beam", "population"], [.symLower, .raw, .symLower, .raw], ".json"⟩
    | _ => none
  addCalls
    | .beamStopping => none
    | .beamPopulation => none
    | a => some a.own
  addFixed := AddFn.ownFixed
  getReads
    | .beamStopping => some ⟨["beam", "stopping"], [.symLower, .symLower, .raw], ".json"⟩
    | .beamPopulation => some ⟨["beam", "population"], [.symLower, .raw, .symLower, .raw], ".json"⟩
    | .ionisation => some ⟨["ionisation"], [.symLower], ".json"⟩
    | .recombination => some ⟨["recombination"], [.symLower], ".json"⟩
    | .thermalCx => some ⟨["thermal_cx"], [.symLower, .raw, .symLower], ".json"⟩
    | .linePower => some ⟨["radiated_power", "line"], [.symLower], ".json"⟩
    | .continuumPower => some ⟨["radiated_power", "continuum"], [.symLower], ".json"⟩
    | .cxPower => some ⟨["radiated_power", "cx"], [.symLower], ".json"⟩
    | .pecExcitation => some ⟨["pec"], [.raw, .symLower, .raw], ".json"⟩
    | .pecRecombination => some ⟨["pec"], [.raw, .symLower, .raw], ".json"⟩
    | .pecThermalCx => some ⟨["pec", "thermal_cx"], [.symLower, .raw, .symLower, .raw], ".json"⟩
    | .wavelength => some ⟨["wavelength"], [.symLower, .raw], ".json"⟩
    | .beamCx => some ⟨["beam", "cx"], [.symLower, .symLower, .raw], ".json"⟩
    | .beamEmission => some ⟨["beam", "emission"], [.symLower, .symLower, .raw], ".json"⟩
  getFixed := GetFn.ownFixed
  installCalls
    | .adf11scd => [(.ionisation, true)]
    | .adf11acd => [(.recombination, true)]
    | .adf11ccd => [(.thermalCx, true)]
    | .adf11plt => [(.linePower, true)]
    | .adf11prb => [(.continuumPower, true)]
    | .adf11prc => [(.cxPower, true)]
    | .adf12 => [(.beamCx, true)]
    | .adf15 => [(.pecThermalCx, true), (.pec, true), (.wavelength, true)]
    | .adf21 => [(.beamStopping, true)]
    | .adf22bmp => [(.beamPopulation, true)]
    | .adf22bme => [(.beamEmission, true)]
  frontCalls := [("install_files", "install_adf15", true)]
  pecReindexes := false
  encodeUpper := ["str", "lower"]
  encodeLower := ["str", "lower"]
  encodeFormat := "{} -> {}"

/-- the hypothesis `T.wellFormed` of all theorems above is satisfiable -/
theorem idealTables_wellFormed : idealTables.wellFormed = true := by decide +kernel

def misroutedTables : Tables :=
  { idealTables with addCalls := fun a => if a = .continuumPower then some .linePower else idealTables.addCalls a }

example : misroutedTables.addMatches = false ∧ misroutedTables.shapesOk = true ∧ misroutedTables.disjointOk = true ∧
    misroutedTables.famOfAdd .continuumPower = .linePower ∧
    misroutedTables.tmplOfAdd .continuumPower = misroutedTables.tmplOfUpd .linePower := by
  -- only `addCalls` differs from `idealTables`: the templates of the `update_*` families are the same
  obtain ⟨_, _, hS, hD, _⟩ := (wellFormed_iff idealTables).mp idealTables_wellFormed
  exact ⟨by decide +kernel, hS, hD, by decide +kernel, by decide +kernel⟩

-- non-vacuity: well-kinded keys, typed inputs and histories satisfying the hypotheses of `refines_kv` exist
example : (Key.mk .ionisation [.sym "c"] [.num 2]).ok = true := by decide
example : (Key.mk .beamCx [.sym "d", .sym "c", .num 6] [.tr "8 -> 7", .num 1]).ok = true := by decide
example (r : Rate) : InputTyped .continuumPower [⟨[.sp ⟨true, "C", 6, 0⟩], [([.num 2], r)]⟩] :=
  List.forall_mem_singleton.mpr ⟨rfl, List.forall_mem_singleton.mpr rfl⟩

/-- on the ideal tables: whatever was stored before, after `add_continuum_power_rate(C, 2, r)` with an accepted `r`
the key (continuum, c, 2) holds the validated `r` (read-your-write, an instance of `refines_kv`) -/
example (r : Rate) (v : Val) (hv : validateAdf11 r = .ok v) (R : Path) (fs : FS) :
    absView idealTables R
      (runOps idealTables [.add .continuumPower [.sp ⟨true, "C", 6, 0⟩, .num 2] [([], r)] (some R)] fs).at
      ⟨.continuumPower, [.sym (lower "C")], [.num 2]⟩ = some v := by
  have hT : ∀ op ∈ [Op.add .continuumPower [.sp ⟨true, "C", 6, 0⟩, .num 2] [([], r)] (some R)],
      op.Typed idealTables ∧ resolve op.root = R :=
    List.forall_mem_singleton.mpr ⟨List.forall_mem_singleton.mpr ⟨rfl, List.forall_mem_singleton.mpr rfl⟩, rfl⟩
  have hi : itemKV .continuumPower [.sp ⟨true, "C", 6, 0⟩] ([.num 2], r) = .ok ([.num 2], v) := by
    simp only [itemKV, UpdFn.innerCheck, chargeOk, UpdFn.validate, hv]; rfl
  have hp : (updPuts idealTables .continuumPower [⟨[.sp ⟨true, "C", 6, 0⟩], [([.num 2], r)]⟩]).1
      = [(⟨.continuumPower, [.sym (lower "C")], [.num 2]⟩, v)] := by
    simp only [updPuts, seqPuts, entryPuts, prefixKV, hi]
    rfl
  rw [refines_kv idealTables idealTables_wellFormed R _ hT fs _ (by decide)]
  exact (congrArg (fun l => applyPuts l _ _) hp).trans (if_pos rfl)

/-- the statement "a rejected call leaves the repository unchanged" is false: `update_ionisation_rates({C: {1: r, 7: r}})`
raises ValueError (charge 7 > Z) *after* charge 1 has been stored — replayed on the implementation by the `rejected`
history of harness/props/c06.py -/
theorem rejected_call_not_atomic (r : Rate) (v : Val) (hv : validateAdf11 r = .ok v) :
    Op.puts idealTables (.upd .ionisation [⟨[.sp ⟨true, "C", 6, 0⟩], [([.num 1], r), ([.num 7], r)]⟩] none)
      = ([(⟨.ionisation, [.sym (lower "C")], [.num 1]⟩, v)], some .valueError) := by
  have h1 : itemKV .ionisation [.sp ⟨true, "C", 6, 0⟩] ([.num 1], r) = .ok ([.num 1], v) := by
    simp only [itemKV, UpdFn.innerCheck, chargeOk, UpdFn.validate, hv]; rfl
  have h7 : itemKV .ionisation [.sp ⟨true, "C", 6, 0⟩] ([.num 7], r) = .error .valueError := rfl
  simp only [Op.puts, UpdFn.prep, updPuts, seqPuts, entryPuts, prefixKV, h1, h7]
  rfl

-- non-vacuity of `call_preserves_or_writes` / `accepted_update_every_target_readable`: a typed call and an ok key exist
example (r : Rate) : (Op.upd .ionisation [⟨[.sp ⟨true, "C", 6, 0⟩], [([.num 1], r), ([.num 7], r)]⟩] none).Typed idealTables :=
  List.forall_mem_singleton.mpr ⟨rfl, List.forall_mem_cons.mpr ⟨rfl, List.forall_mem_singleton.mpr rfl⟩⟩
example : (Op.files [(.adf21, [[]]), (.adf15, [[], [], []])] none).Typed idealTables :=
  List.forall_mem_cons.mpr ⟨⟨nofun, trivial⟩, List.forall_mem_singleton.mpr ⟨nofun, nofun, nofun, trivial⟩⟩

end Cherab.Props.C06
