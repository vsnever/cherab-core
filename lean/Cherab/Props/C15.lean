import Cherab.Model.Groups
import Cherab.Lemmas.Groups

/-!
# C15 — observer groups broadcast settings faithfully and keep members consistent

Property theorems over the descriptor interpreter of `Cherab.Model.Groups`, for **every** descriptor that satisfies the
decidable well-formedness predicate (`wfBroadcast`, or the documented special shapes `wfSeqOnly` = `names`,
`wfLenOnly` = `pipelines`, `wfAllSeq` = `targets`), every world (group + heap of observers), every value and every
history.  That the descriptors generated from /repo *are* well-formed is `Cherab.Props.C15Table.table_wf`.

The broadcast laws (clauses 1–4, idempotence, last write wins); the special shapes; what an ill-formed descriptor does;
membership, retrieval and `observe` (clauses 5–8), the constructor; a refused operation changes nothing; the parent
invariant over several groups and its counterexample in the code (`cross_group_add_steals`).

Member-level behaviour (raysect's own attribute setters) is a parameter: `Obj.rej` / `Obj.stored`.
-/
namespace Cherab.Props.C15
open Cherab.Groups

/-! ## The broadcast laws (property clauses 1–4) for every well-formed descriptor -/

/-- **clause 1 — a single value reaches every member.**  `value` is not one of the sequence kinds the setter names and
the member's own setter accepts it: no exception, every member's attribute holds the value, nothing else changed. -/
theorem wf_scalar_broadcast (d : Descriptor) (hwf : d.wfBroadcast = true) (w : World) (v : Val)
    (hk : ¬ IsSeq d v) (hok : Passes (scalarChk d) v.obj) :
    (setAttr d w v).2 = none ∧
    Wrote (memberAttr d) w (setAttr d w v).1 (List.replicate w.members.length v.obj.stored) ∧
    ∀ u ∈ w.members, ((setAttr d w v).1.heap u).attrs (memberAttr d) = v.obj.stored := by
  obtain ⟨s, ks, chk, err, h⟩ := wfBroadcast_unpack d hwf
  rw [scalarChk_eq h.setter h.orelse] at hok
  rw [setAttr_isinst h.setter h.test, if_neg hk]
  obtain ⟨h1, h2⟩ := elseBranch_broadcast_ok s w v h.orelse hok
  exact ⟨h1, h2, h2.each⟩

/-- **clause 2 — a sequence of group length is assigned element-wise** (members distinct). -/
theorem wf_elementwise (d : Descriptor) (hwf : d.wfBroadcast = true) (w : World) (v : Val)
    (hk : IsSeq d v) (hlen : v.items.length = w.members.length)
    (hok : ∀ o ∈ v.items, Passes (elemChk d) o) (hnd : w.members.Nodup) :
    (setAttr d w v).2 = none ∧
    Wrote (memberAttr d) w (setAttr d w v).1 (v.items.map (·.stored)) ∧
    ∀ i (h1 : i < w.members.length) (h2 : i < v.items.length),
      ((setAttr d w v).1.heap w.members[i]).attrs (memberAttr d) = v.items[i].stored := by
  obtain ⟨s, ks, chk, err, h⟩ := wfBroadcast_unpack d hwf
  rw [elemChk_eq h.setter] at hok
  rw [setAttr_isinst h.setter h.test, if_pos hk]
  obtain ⟨h1, h2⟩ := seqBranch_ok s w v hlen hok hnd
  rw [h.seqAttr] at h2
  exact ⟨h1, h2, fun i hi1 hi2 => (h2.nth i hi1 (by rw [List.length_map]; exact hi2)).trans (List.getElem_map _)⟩

/-- **clause 3 — any other length raises `ValueError` and changes nothing** (whatever the elements are). -/
theorem wf_wrong_length (d : Descriptor) (hwf : d.wfBroadcast = true) (w : World) (v : Val)
    (hk : IsSeq d v) (hlen : v.items.length ≠ w.members.length) :
    setAttr d w v = (w, some .valueError) := by
  obtain ⟨s, ks, chk, err, h⟩ := wfBroadcast_unpack d hwf
  rw [setAttr_isinst h.setter h.test, if_pos hk, seqBranch_wrong_length s w v h.lenCheck hlen, h.lenErr]

/-- **clause 4 — reading returns the members' current values in member order.** -/
theorem wf_read (d : Descriptor) (hwf : d.wfBroadcast = true) (w : World) :
    getAttr d w = .vals (w.members.map fun u => (w.heap u).attrs (memberAttr d)) := by
  obtain ⟨s, ks, chk, err, h⟩ := wfBroadcast_unpack d hwf
  exact getAttr_each h.getter w

/-- list and tuple are always among the recognised sequence kinds -/
theorem wf_list_tuple_are_sequences (d : Descriptor) (hwf : d.wfBroadcast = true) (v : Val)
    (hv : v.obj.kind = some .list ∨ v.obj.kind = some .tuple) : IsSeq d v := by
  obtain ⟨s, ks, chk, err, h⟩ := wfBroadcast_unpack d hwf
  exact isSeq_of_isinst h.setter h.test h.kinds hv

/-- a non-sequence object is never mistaken for a sequence -/
theorem wf_scalar_is_not_sequence (d : Descriptor) (v : Val) (hv : v.obj.kind = none) : ¬ IsSeq d v := by
  simp [IsSeq, kindIn, hv]

theorem wf_read_back_scalar (d : Descriptor) (hwf : d.wfBroadcast = true) (w : World) (v : Val)
    (hk : ¬ IsSeq d v) (hok : Passes (scalarChk d) v.obj) :
    getAttr d (setAttr d w v).1 = .vals (List.replicate w.members.length v.obj.stored) :=
  (wf_read d hwf _).trans (congrArg Out.vals (wf_scalar_broadcast d hwf w v hk hok).2.1.read)

theorem wf_read_back_elementwise (d : Descriptor) (hwf : d.wfBroadcast = true) (w : World) (v : Val)
    (hk : IsSeq d v) (hlen : v.items.length = w.members.length)
    (hok : ∀ o ∈ v.items, Passes (elemChk d) o) (hnd : w.members.Nodup) :
    getAttr d (setAttr d w v).1 = .vals (v.items.map (·.stored)) :=
  (wf_read d hwf _).trans (congrArg Out.vals (wf_elementwise d hwf w v hk hlen hok hnd).2.1.read)

/-- what an accepted assignment writes: one value per member -/
def target (d : Descriptor) (n : Nat) (v : Val) : List Nat :=
  if kindIn v.obj.kind (kindsOf d) then v.items.map (·.stored) else List.replicate n v.obj.stored

/-- the value has an admissible length for a group of `n` members -/
def lenOk (d : Descriptor) (n : Nat) (v : Val) : Bool :=
  !kindIn v.obj.kind (kindsOf d) || v.items.length == n

/-- the members' own setters accept what the group hands them -/
def Acceptable (d : Descriptor) (v : Val) : Prop :=
  (IsSeq d v → ∀ o ∈ v.items, Passes (elemChk d) o) ∧ (¬ IsSeq d v → Passes (scalarChk d) v.obj)

theorem wf_accepted (d : Descriptor) (hwf : d.wfBroadcast = true) (w : World) (v : Val)
    (hacc : Acceptable d v) (hnd : w.members.Nodup) (hlen : lenOk d w.members.length v = true) :
    (setAttr d w v).2 = none ∧ Wrote (memberAttr d) w (setAttr d w v).1 (target d w.members.length v) := by
  unfold target
  by_cases hk : IsSeq d v
  · have hl : v.items.length = w.members.length := by simpa [lenOk, show kindIn v.obj.kind (kindsOf d) = true from hk] using hlen
    obtain ⟨h1, h2, _⟩ := wf_elementwise d hwf w v hk hl (hacc.1 hk) hnd
    rw [if_pos hk]; exact ⟨h1, h2⟩
  · obtain ⟨h1, h2, _⟩ := wf_scalar_broadcast d hwf w v hk (hacc.2 hk)
    rw [if_neg hk]; exact ⟨h1, h2⟩

theorem wf_refused (d : Descriptor) (hwf : d.wfBroadcast = true) (w : World) (v : Val)
    (hlen : ¬ lenOk d w.members.length v = true) : setAttr d w v = (w, some .valueError) := by
  simp only [lenOk, Bool.or_eq_true, Bool.not_eq_true', beq_iff_eq, not_or, Bool.not_eq_false] at hlen
  exact wf_wrong_length d hwf w v hlen.1 hlen.2

/-- one step of a history, seen through an arbitrary attribute `b` -/
theorem wf_step (d : Descriptor) (hwf : d.wfBroadcast = true) (w : World) (v : Val)
    (hacc : Acceptable d v) (hnd : w.members.Nodup) :
    (setAttr d w v).1.members = w.members ∧
    ∀ b, readEach (setAttr d w v).1 b =
      if memberAttr d = b ∧ lenOk d w.members.length v = true then target d w.members.length v else readEach w b := by
  by_cases hlen : lenOk d w.members.length v = true
  · obtain ⟨_, hw⟩ := wf_accepted d hwf w v hacc hnd hlen
    refine ⟨hw.members, fun b => ?_⟩
    by_cases hb : memberAttr d = b
    · subst hb; rw [if_pos ⟨rfl, hlen⟩]; exact hw.read
    · rw [if_neg fun h => hb h.1]; exact readEach_of_frame hw.members hw.frame (Ne.symm hb)
  · rw [wf_refused d hwf w v hlen]
    exact ⟨rfl, fun b => (if_neg fun h => hlen h.2).symm⟩

/-- **idempotence**: repeating an accepted assignment changes nothing further (equality of whole states) -/
theorem wf_idempotent (d : Descriptor) (hwf : d.wfBroadcast = true) (w : World) (v : Val)
    (hacc : Acceptable d v) (hnd : w.members.Nodup) :
    setAttr d (setAttr d w v).1 v = setAttr d w v := by
  by_cases hlen : lenOk d w.members.length v = true
  · obtain ⟨he, hw⟩ := wf_accepted d hwf w v hacc hnd hlen
    obtain ⟨he2, hw2⟩ := wf_accepted d hwf (setAttr d w v).1 v hacc (by rw [hw.members]; exact hnd)
      (by rw [hw.members]; exact hlen)
    rw [hw.members] at hw2
    exact Prod.ext (hw.again hw2) (he2.trans he.symm)
  · have h := wf_refused d hwf w v hlen
    rw [h]; exact h

/-- a history of group-level assignments (any mix of attributes / descriptors), exceptions ignored as in a session -/
def runAssign (w : World) : List (Descriptor × Val) → World
  | [] => w
  | (d, v) :: hs => runAssign (setAttr d w v).1 hs

/-- the specification of reading attribute `b` after a history: the last assignment of admissible length to the
public attribute that stands for `b` decides; wrong-length assignments and other attributes are skipped -/
def specRead (b : Attr) (n : Nat) : List (Descriptor × Val) → List Nat → List Nat
  | [], cur => cur
  | (d, v) :: hs, cur =>
    specRead b n hs (if memberAttr d = b ∧ lenOk d n v = true then target d n v else cur)

/-- **last write wins, for every history**: after any sequence of assignments through well-formed descriptors
(scalars, right-length and wrong-length sequences, any attributes, any order) the members' values of every attribute
are exactly those of the last admissible assignment to it — or the initial ones if there was none. -/
theorem history_last_write_wins (hs : List (Descriptor × Val)) (w : World) (hnd : w.members.Nodup)
    (hwf : ∀ p ∈ hs, p.1.wfBroadcast = true ∧ Acceptable p.1 p.2) (b : Attr) :
    (runAssign w hs).members = w.members ∧
    readEach (runAssign w hs) b = specRead b w.members.length hs (readEach w b) := by
  induction hs generalizing w with
  | nil => exact ⟨rfl, rfl⟩
  | cons p hs ih =>
    obtain ⟨d, v⟩ := p
    obtain ⟨hd, hacc⟩ := hwf (d, v) List.mem_cons_self
    obtain ⟨hm, hr⟩ := wf_step d hd w v hacc hnd
    obtain ⟨ihm, ihr⟩ := ih (setAttr d w v).1 (by rw [hm]; exact hnd) (fun p hp => hwf p (List.mem_cons_of_mem _ hp))
    refine ⟨by simp only [runAssign]; rw [ihm, hm], ?_⟩
    simp only [runAssign, specRead]
    rw [ihr, hm, hr b]

theorem specRead_append (b : Attr) (n : Nat) (hs hs' : List (Descriptor × Val)) (cur : List Nat) :
    specRead b n (hs ++ hs') cur = specRead b n hs' (specRead b n hs cur) := by
  induction hs generalizing cur with
  | nil => rfl
  | cons p hs ih => obtain ⟨d, v⟩ := p; simp only [List.cons_append, specRead]; exact ih _

/-- corollary in the usual form: whatever happened before, reading after an admissible assignment returns it -/
theorem last_write_wins (hs : List (Descriptor × Val)) (d : Descriptor) (v : Val) (w : World) (hnd : w.members.Nodup)
    (hwf : ∀ p ∈ hs ++ [(d, v)], p.1.wfBroadcast = true ∧ Acceptable p.1 p.2)
    (hlen : lenOk d w.members.length v = true) :
    getAttr d (runAssign w (hs ++ [(d, v)])) = .vals (target d w.members.length v) := by
  have hd := (hwf (d, v) (by simp)).1
  rw [wf_read d hd]
  obtain ⟨_, hr⟩ := history_last_write_wins (hs ++ [(d, v)]) w hnd hwf (memberAttr d)
  unfold readEach at hr
  rw [hr, specRead_append]
  simp [specRead, hlen]

/-- **the broadcast laws in one statement** — for every well-formed descriptor, every group with distinct members and
every value the members accept: (1) a non-sequence value reaches every member, (2) a sequence of group length is
assigned element-wise, (3) any other length raises `ValueError` and leaves the world untouched, (4) reading returns
the members' values in member order, (5) repeating the assignment changes nothing. -/
theorem wf_broadcast_laws (d : Descriptor) (hwf : d.wfBroadcast = true) (w : World) (v : Val)
    (hacc : Acceptable d v) (hnd : w.members.Nodup) :
    (¬ IsSeq d v → (setAttr d w v).2 = none ∧
        ∀ u ∈ w.members, ((setAttr d w v).1.heap u).attrs (memberAttr d) = v.obj.stored) ∧
    (IsSeq d v → v.items.length = w.members.length → (setAttr d w v).2 = none ∧
        ∀ i (h1 : i < w.members.length) (h2 : i < v.items.length),
          ((setAttr d w v).1.heap w.members[i]).attrs (memberAttr d) = v.items[i].stored) ∧
    (IsSeq d v → v.items.length ≠ w.members.length → setAttr d w v = (w, some .valueError)) ∧
    getAttr d w = .vals (w.members.map fun u => (w.heap u).attrs (memberAttr d)) ∧
    setAttr d (setAttr d w v).1 v = setAttr d w v :=
  ⟨fun hk => let ⟨a, _, c⟩ := wf_scalar_broadcast d hwf w v hk (hacc.2 hk); ⟨a, c⟩,
   fun hk hlen => let ⟨a, _, c⟩ := wf_elementwise d hwf w v hk hlen (hacc.1 hk) hnd; ⟨a, c⟩,
   fun hk hlen => wf_wrong_length d hwf w v hk hlen,
   wf_read d hwf w,
   wf_idempotent d hwf w v hacc hnd⟩

/-! ## The documented special shapes: `names` (sequence only), `pipelines` (length only), `targets` (list of lists) -/

/-- `names`: element-wise assignment, `ValueError` + unchanged on a wrong length, `TypeError` + unchanged for anything
that is not a list/tuple, reading returns the members' names in order -/
theorem seqonly_laws (d : Descriptor) (hwf : d.wfSeqOnly = true) (w : World) (v : Val) :
    (IsSeq d v → v.items.length = w.members.length → (∀ o ∈ v.items, o.rej = none) → w.members.Nodup →
      (setAttr d w v).2 = none ∧ Wrote (memberAttr d) w (setAttr d w v).1 (v.items.map (·.stored))) ∧
    (IsSeq d v → v.items.length ≠ w.members.length → setAttr d w v = (w, some .valueError)) ∧
    (¬ IsSeq d v → setAttr d w v = (w, some .typeError)) ∧
    getAttr d w = .vals (w.members.map fun u => (w.heap u).attrs (memberAttr d)) ∧
    ((v.obj.kind = some .list ∨ v.obj.kind = some .tuple) → IsSeq d v) := by
  obtain ⟨s, ks, hc, ht, hks, hor⟩ := wfSeqOnly_unpack d hwf
  have hrun := setAttr_isinst hc.setter ht w v
  refine ⟨fun hk hlen hok hnd => ?_, fun hk hlen => ?_, fun hk => ?_, hc.read w, isSeq_of_isinst hc.setter ht hks⟩
  · rw [hrun, if_pos hk]; exact hc.seq_ok w v hlen hok hnd
  · rw [hrun, if_pos hk]; exact hc.seq_wrong w v hlen
  · rw [hrun, if_neg hk]; simp only [elseBranch, hor]

/-- `pipelines`: any sized value of group length is assigned element-wise, any other length raises `ValueError` and
changes nothing, an unsized value raises `TypeError` and changes nothing, reading returns the members' pipelines -/
theorem lenonly_laws (d : Descriptor) (hwf : d.wfLenOnly = true) (w : World) (v : Val) :
    (v.obj.kind ≠ none → v.items.length = w.members.length → (∀ o ∈ v.items, o.rej = none) → w.members.Nodup →
      (setAttr d w v).2 = none ∧ Wrote (memberAttr d) w (setAttr d w v).1 (v.items.map (·.stored))) ∧
    (v.obj.kind ≠ none → v.items.length ≠ w.members.length → setAttr d w v = (w, some .valueError)) ∧
    (v.obj.kind = none → setAttr d w v = (w, some .typeError)) ∧
    getAttr d w = .vals (w.members.map fun u => (w.heap u).attrs (memberAttr d)) := by
  obtain ⟨s, hc, ht⟩ := wfLenOnly_unpack d hwf
  rw [setAttr_broadcast hc.setter]
  refine ⟨fun hk hlen hok hnd => ?_, fun hk hlen => ?_, fun hk => ?_, hc.read w⟩
  · rw [Setter.run_sized ht w hk]; exact hc.seq_ok w v hlen hok hnd
  · rw [Setter.run_sized ht w hk]; exact hc.seq_wrong w v hlen
  · exact Setter.run_unsized (fun ks h => by rw [ht] at h; cases h) w hk

/-- all elements of the value are lists/tuples themselves -/
def AllItemsSeq (d : Descriptor) (v : Val) : Prop := v.items.all (fun o => kindIn o.kind (kindsOf d)) = true

/-- `targets`: a list of lists of group length is assigned element-wise, any other number of lists raises
`ValueError` and changes nothing, a flat list is shared by every pixel, reading returns the pixels' targets -/
theorem allseq_laws (d : Descriptor) (hwf : d.wfAllSeq = true) (w : World) (v : Val) (hv : v.obj.kind ≠ none) :
    (AllItemsSeq d v → v.items.length = w.members.length → (∀ o ∈ v.items, o.rej = none) → w.members.Nodup →
      (setAttr d w v).2 = none ∧ Wrote (memberAttr d) w (setAttr d w v).1 (v.items.map (·.stored))) ∧
    (AllItemsSeq d v → v.items.length ≠ w.members.length → setAttr d w v = (w, some .valueError)) ∧
    (¬ AllItemsSeq d v → v.obj.rej = none →
      (setAttr d w v).2 = none ∧
      Wrote (memberAttr d) w (setAttr d w v).1 (List.replicate w.members.length v.obj.stored)) ∧
    getAttr d w = .vals (w.members.map fun u => (w.heap u).attrs (memberAttr d)) := by
  obtain ⟨s, ks, err, hc, ht, _, hor⟩ := wfAllSeq_unpack d hwf
  have hrun : setAttr d w v =
      if v.items.all (fun o => kindIn o.kind (kindsOf d)) then seqBranch s w v else elseBranch s w v := by
    rw [setAttr_broadcast hc.setter, Setter.run_allItems ht w hv, kindsOf_allItems hc.setter ht]
  unfold AllItemsSeq
  refine ⟨fun ha hlen hok hnd => ?_, fun ha hlen => ?_, fun ha hok => ?_, hc.read w⟩
  · rw [hrun, if_pos ha]; exact hc.seq_ok w v hlen hok hnd
  · rw [hrun, if_pos ha]; exact hc.seq_wrong w v hlen
  · rw [hrun, if_neg ha]; exact elseBranch_broadcast_ok s w v hor ⟨hok, fun h => absurd h Bool.false_ne_true⟩

/-! ## Constructive witnesses for descriptors that are *not* well-formed (what a failing `table_wf` means) -/

/-- a property object without `fset`: every assignment raises `AttributeError` and changes nothing -/
theorem missing_setter_raises (d : Descriptor) (h : d.setter = none) (w : World) (v : Val) :
    setAttr d w v = (w, some .attributeError) := by
  simp only [setAttr, h]

/-- a property object whose getter belongs to another attribute returns that attribute's values -/
theorem misbound_getter_reads (d : Descriptor) (a : Attr) (h : d.getter = .each a) (w : World) :
    getAttr d w = .vals (w.members.map fun u => (w.heap u).attrs a) :=
  getAttr_each h w

/-- if moreover the members' values of the two attributes differ, the read is *not* what the property demands -/
theorem misbound_getter_wrong (d : Descriptor) (a : Attr) (h : d.getter = .each a) (w : World)
    (hdiff : (w.members.map fun u => (w.heap u).attrs a) ≠ (w.members.map fun u => (w.heap u).attrs (memberAttr d))) :
    getAttr d w ≠ .vals (w.members.map fun u => (w.heap u).attrs (memberAttr d)) := by
  rw [misbound_getter_reads d a h]
  intro e
  exact hdiff (Out.vals.inj e)

/-! ## Membership (property clauses 5–8) -/

/-- the invariant survives every operation of the group API (and direct changes of member attributes) -/
theorem inv_step (tbl : List Descriptor) (ci : ClassInfo) (w : World) (op : Op) (hi : Inv ci w) :
    Inv ci (step tbl ci w op).1 ∧ (step tbl ci w op).1.gid = w.gid := by
  refine step_cases (P := fun _ r => Inv ci r.1 ∧ r.1.gid = w.gid) tbl ci w ?_ ?_ ?_ ?_ (fun _ _ => ⟨hi, rfl⟩) op
  · exact fun u => addObserver_inv ci w u hi
  · intro _ v _ s _ _
    obtain ⟨hm, hg, a, f⟩ := s.run_frame w v
    exact ⟨hi.of_frame hm hg f, hg⟩
  · exact fun _ k us _ _ m _ => m.run_inv ci w k us hi
  · -- a direct change of a member attribute: a frame around the one object
    exact fun u a x => ⟨hi.of_frame rfl rfl (Frame.refl a [] _).cons, rfl⟩

/-- **clauses 6–7 for all histories**: after any sequence of add / assign / member-list assignment / rename operations
(accepted or rejected, through *any* descriptor table) every member's parent is the group and every member is of the
group's observer type -/
theorem inv_run (tbl : List Descriptor) (ci : ClassInfo) (ops : List Op) (w : World) (hi : Inv ci w) :
    Inv ci (run tbl ci w ops) ∧ (run tbl ci w ops).gid = w.gid := by
  induction ops generalizing w with
  | nil => exact ⟨hi, rfl⟩
  | cons op ops ih =>
    obtain ⟨h1, h2⟩ := inv_step tbl ci w op hi
    obtain ⟨h3, h4⟩ := ih _ h1
    exact ⟨h3, by simp only [run]; rw [h4, h2]⟩

/-- an empty group satisfies the invariant -/
theorem inv_empty (ci : ClassInfo) (g : Nat) (h : Heap) : Inv ci ⟨g, h, []⟩ :=
  fun _ hu => nomatch hu

/-- `add_observer`: an observer of the group's type is appended at the end and re-parented; nothing else changes -/
theorem add_accepts (ci : ClassInfo) (w : World) (u : Nat) (ht : typeOk w.heap ci.accepted u = true) :
    (addObserver ci w u).2 = none ∧ (addObserver ci w u).1.members = w.members ++ [u] ∧
    groupLen (addObserver ci w u).1 = groupLen w + 1 ∧
    ((addObserver ci w u).1.heap u).parent = some w.gid ∧
    (∀ x, ((addObserver ci w u).1.heap x).attrs = (w.heap x).attrs) := by
  simp [addObserver, ht, groupLen]

/-- … any other object is rejected and the group is unchanged -/
theorem add_rejects (ci : ClassInfo) (w : World) (u : Nat) (ht : typeOk w.heap ci.accepted u = false) :
    addObserver ci w u = (w, some ci.addErr) := by
  simp [addObserver, ht]

/-- member-list assignment through a descriptor whose setter type-checks first (`observers`): all-or-nothing -/
theorem set_members_atomic (m : MemberSetter) (ci : ClassInfo) (w : World) (k : Option SeqKind) (us : List Nat)
    (hk : kindIn k m.kinds = true) (ha : m.atomic = true) :
    (us.all (typeOk w.heap ci.accepted) = true →
      (m.run ci w k us).2 = none ∧ (m.run ci w k us).1.members = us) ∧
    (us.all (typeOk w.heap ci.accepted) = false → m.run ci w k us = (w, some m.elemErr)) := by
  constructor <;> intro h <;> simp [MemberSetter.run, hk, ha, h]

/-- what a setter that checks inside the loop does instead (`atomic = false`, the shape `wfMembers` rules out): the
elements in front of the first wrong-typed one are re-parented to the refusing group although the assignment raises -/
theorem set_members_loop_partial (m : MemberSetter) (ci : ClassInfo) (w : World) (k : Option SeqKind) (u x : Nat)
    (rest : List Nat) (hk : kindIn k m.kinds = true) (ha : m.atomic = false) (hu : typeOk w.heap ci.accepted u = true)
    (hx : typeOk w.heap ci.accepted x = false) :
    (m.run ci w k (u :: x :: rest)).2 = some m.elemErr ∧ (m.run ci w k (u :: x :: rest)).1.members = w.members ∧
    ((m.run ci w k (u :: x :: rest)).1.heap u).parent = some w.gid := by
  have hx' : typeOk (w.heap.setParent u (some w.gid)) ci.accepted x = false := by
    rw [typeOk_congr (h := w.heap) ci.accepted x (by simp)]; exact hx
  simp [MemberSetter.run, hk, ha, reparentChecked, hu, hx']

theorem set_members_wrong_container (m : MemberSetter) (ci : ClassInfo) (w : World) (k : Option SeqKind) (us : List Nat)
    (hk : kindIn k m.kinds = false) : m.run ci w k us = (w, some m.kindErr) := by
  simp [MemberSetter.run, hk]

/-- histories that mix `add` with assignments: a new member contributes its own current value at the end of every read,
and distinctness of members is preserved — so `wf_step` / `history_last_write_wins` apply again after each `add` -/
theorem read_after_add (ci : ClassInfo) (w : World) (u : Nat) (ht : typeOk w.heap ci.accepted u = true) (b : Attr) :
    readEach (addObserver ci w u).1 b = readEach w b ++ [(w.heap u).attrs b] ∧
    (w.members.Nodup → u ∉ w.members → (addObserver ci w u).1.members.Nodup) := by
  constructor
  · simp [addObserver, ht, readEach]
  · intro hnd hu
    simp only [addObserver, ht, if_true]
    exact hnd.append (List.nodup_singleton u) (List.disjoint_singleton.mpr hu)

/-- `group[i]`, both families: the i-th member; out of range is an `IndexError` -/
theorem getitem_index (ci : ClassInfo) (w : World) (i : Nat) (hi : i < w.members.length) :
    getItem ci w (.int i) = .objs [w.members[i]] := by
  rw [getItem_int_eq, pyIndex_nonneg w.members i hi]; rfl

theorem getitem_last (ci : ClassInfo) (w : World) (hn : 0 < w.members.length) :
    getItem ci w (.int (-1)) = .objs [w.members[w.members.length - 1]] := by
  rw [getItem_int_eq, show (-1 : Int) = -((1 : Nat) : Int) from rfl, pyIndex_negative w.members 1 (le_refl 1) hn]
  rfl

theorem getitem_index_error (ci : ClassInfo) (w : World) (i : Int)
    (h : (w.members.length : Int) ≤ i ∨ i < -(w.members.length : Int)) :
    getItem ci w (.int i) = .err .indexError := by
  rw [getItem_int_eq, pyIndex_out_of_range w.members i h]; rfl

/-- `group[a:b]`, both families, for every class whose `__getitem__` hands slices to the member container -/
theorem getitem_slice (ci : ClassInfo) (hs : ci.sliceKeys = true) (w : World) (a b : Nat) (hab : a ≤ b)
    (hb : b ≤ w.members.length) :
    getItem ci w (.slice (some (a : Int)) (some (b : Int)) none) = .objs ((w.members.drop a).take (b - a)) := by
  rw [getItem_slice_eq, if_pos hs, pySlice_simple w.members a b hab hb]; rfl

theorem getitem_slice_members (ci : ClassInfo) (w : World) (a b c : Option Int) (us : List Nat)
    (h : getItem ci w (.slice a b c) = .objs us) : ∀ u ∈ us, u ∈ w.members := by
  rw [getItem_slice_eq] at h
  split at h
  · match hp : pySlice w.members a b c, h with
    | some _, rfl => exact pySlice_members _ _ _ _ _ hp
  · cases h

/-- a class whose `__getitem__` does not accept slices answers every slice with `TypeError` (what a failing
`classes_accept_slices` means) -/
theorem getitem_slice_refused (ci : ClassInfo) (hs : ci.sliceKeys = false) (w : World) (a b c : Option Int) :
    getItem ci w (.slice a b c) = .err .typeError := by
  rw [getItem_slice_eq, if_neg (by rw [hs]; exact Bool.false_ne_true)]

/-- `group[name]`: a member whose name is unique in the group is returned (both families) -/
theorem getitem_unique_name (ci : ClassInfo) (w : World) (x u : Nat) (hnd : w.members.Nodup) (hu : u ∈ w.members)
    (hname : nameOf w.heap u = x) (huniq : ∀ y ∈ w.members, y ≠ u → nameOf w.heap y ≠ x) :
    getItem ci w (.str x) = .objs [u] := by
  exact getItem_str_eq ci w x (filter_unique w.members (fun y => nameOf w.heap y == x) u hnd hu (beq_iff_eq.mpr hname)
    fun y hy hne => beq_eq_false_iff_ne.mpr (huniq y hy hne)) (le_refl 1)

/-- a name nobody carries is a `ValueError` (both families) -/
theorem getitem_unknown_name (ci : ClassInfo) (w : World) (x : Nat) (h : ∀ y ∈ w.members, nameOf w.heap y ≠ x) :
    getItem ci w (.str x) = .err .valueError := by
  exact getItem_str_eq ci w x (List.filter_eq_nil_iff.mpr fun y hy => by simpa using h y hy) (Nat.zero_le 1)

/-- a key that is neither int, slice nor str is a `TypeError` -/
theorem getitem_bad_key (ci : ClassInfo) (w : World) : getItem ci w .other = .err .typeError := by
  unfold getItem; cases ci.family <;> rfl

/-- an added observer is immediately retrievable at the last position -/
theorem getitem_after_add (ci : ClassInfo) (w : World) (u : Nat) (ht : typeOk w.heap ci.accepted u = true) :
    getItem ci (addObserver ci w u).1 (.int (w.members.length : Nat)) = .objs [u] := by
  obtain ⟨_, hm, _⟩ := add_accepts ci w u ht
  have hl : w.members.length < (addObserver ci w u).1.members.length := by rw [hm]; simp
  rw [getitem_index ci _ _ hl]
  simp [hm]

/-- **clause 8 — observing the group observes every member once**, in member order -/
theorem observe_each_once (w : World) (hnd : w.members.Nodup) :
    observe w = w.members ∧ (∀ u ∈ w.members, (observe w).count u = 1) ∧ (∀ u, u ∉ w.members → (observe w).count u = 0) := by
  refine ⟨rfl, ?_, ?_⟩
  · intro u hu; exact List.count_eq_one_of_mem hnd hu
  · intro u hu; exact List.count_eq_zero_of_not_mem hu

/-- without the distinctness assumption: each object is observed exactly as often as it occurs among the members -/
theorem observe_counts (w : World) (u : Nat) : (observe w).count u = w.members.count u := rfl

/-- summary: for every history from a consistent group, the invariant holds and every member is retrievable by its
index; members added by the history are of the group's type and have the group as parent -/
theorem membership_laws (tbl : List Descriptor) (ci : ClassInfo) (ops : List Op) (w0 : World) (h0 : Inv ci w0) :
    let w := run tbl ci w0 ops
    (∀ u ∈ w.members, (w.heap u).parent = some w0.gid ∧ typeOk w.heap ci.accepted u = true) ∧
    groupLen w = w.members.length ∧
    (∀ i (hi : i < w.members.length), getItem ci w (.int i) = .objs [w.members[i]]) ∧
    observe w = w.members := by
  intro w
  obtain ⟨hi, hg⟩ := inv_run tbl ci ops w0 h0
  refine ⟨?_, rfl, fun i hi' => getitem_index ci w i hi', rfl⟩
  intro u hu
  obtain ⟨p, t⟩ := hi u hu
  exact ⟨by rw [← hg]; exact p, t⟩

section Constructor

theorem run_adds_members (tbl : List Descriptor) (ci : ClassInfo) (us : List Nat) (w : World)
    (hok : ∀ u ∈ us, typeOk w.heap ci.accepted u = true) : (run tbl ci w (us.map .add)).members = w.members ++ us := by
  induction us generalizing w with
  | nil => exact (List.append_nil _).symm
  | cons u us ih =>
    have hm := (add_accepts ci w u (hok u List.mem_cons_self)).2.1
    rw [List.map_cons, run, step, ih _ fun x hx => (typeOk_addObserver ci w u x _).trans (hok x (List.mem_cons_of_mem _ hx)),
      hm, List.append_assoc, List.singleton_append]

theorem addLoop_eq (tbl : List Descriptor) (ci : ClassInfo) (us : List Nat) (w : World) :
    addLoop ci w us = (run tbl ci w ((us.takeWhile (typeOk w.heap ci.accepted)).map .add),
      if us.all (typeOk w.heap ci.accepted) then none else some ci.addErr) := by
  induction us generalizing w with
  | nil => rfl
  | cons u us ih =>
    cases ht : typeOk w.heap ci.accepted u with
    | false => simp only [addLoop, add_rejects ci w u ht, List.takeWhile_cons, ht, List.all_cons, Bool.false_and]; rfl
    | true =>
      have tc : typeOk (addObserver ci w u).1.heap ci.accepted = typeOk w.heap ci.accepted :=
        funext fun x => typeOk_addObserver ci w u x _
      have e : addObserver ci w u = ((addObserver ci w u).1, none) := Prod.ext rfl (add_accepts ci w u ht).1
      rw [addLoop, e]
      simp only [ih, tc, List.takeWhile_cons, ht, List.all_cons, Bool.true_and, if_true, List.map_cons, run, step]

/-- over observers of the group's type the constructor's loop (`base.py:58-59`) is the whole history `add u₁; …; add uₙ` -/
theorem addLoop_accepts (tbl : List Descriptor) (ci : ClassInfo) (us : List Nat) (w : World)
    (hok : ∀ u ∈ us, typeOk w.heap ci.accepted u = true) :
    addLoop ci w us = (run tbl ci w (us.map .add), none) ∧ (run tbl ci w (us.map .add)).members = w.members ++ us := by
  refine ⟨?_, run_adds_members tbl ci us w hok⟩
  rw [addLoop_eq tbl, List.takeWhile_eq_self_iff.mpr hok, List.all_eq_true.mpr hok, if_pos rfl]

/-- **two entry points agree**: `Cls(observers=us)` with observers of the group's type is accepted, and the group it
builds *is* the one obtained from an empty group by `add_observer(u)` for every `u` in order — same members (`us`, in
order), same heap; every member's parent is the new group and the invariant of clauses 6–7 holds -/
theorem construct_accepts (tbl : List Descriptor) (ci : ClassInfo) (g : Nat) (h : Heap) (us : List Nat)
    (hok : ∀ u ∈ us, typeOk h ci.accepted u = true) :
    construct ci g h us = (run tbl ci ⟨g, h, []⟩ (us.map .add), none) ∧
    (construct ci g h us).1.members = us ∧ (construct ci g h us).1.gid = g ∧ Inv ci (construct ci g h us).1 := by
  obtain ⟨h1, h2⟩ := addLoop_accepts tbl ci us ⟨g, h, []⟩ hok
  obtain ⟨h3, h4⟩ := inv_run tbl ci (us.map .add) ⟨g, h, []⟩ (inv_empty ci g h)
  rw [construct, h1]
  exact ⟨rfl, h2, h4, h3⟩

/-- **a refused constructor keeps the earlier adoptions** (the constructive content of "the constructor is a loop of
`add_observer`"): with the first object of a wrong type at position `pre.length`, the call raises `add_observer`'s
exception, and the half-built group is the result of the accepted adds — `pre` are its members, each with the
discarded group as parent; nothing behind the wrong object is touched -/
theorem construct_refused_partial (tbl : List Descriptor) (ci : ClassInfo) (g : Nat) (h : Heap) (pre post : List Nat) (x : Nat)
    (hok : ∀ u ∈ pre, typeOk h ci.accepted u = true) (hx : typeOk h ci.accepted x = false) :
    construct ci g h (pre ++ x :: post) = (run tbl ci ⟨g, h, []⟩ (pre.map .add), some ci.addErr) ∧
    (construct ci g h (pre ++ x :: post)).1.members = pre ∧
    (∀ u ∈ pre, (((construct ci g h (pre ++ x :: post)).1.heap u).parent = some g)) := by
  have hpre : (pre ++ x :: post).takeWhile (typeOk h ci.accepted) = pre := by
    rw [List.takeWhile_append_of_pos hok, List.takeWhile_cons_of_neg (by rw [hx]; exact Bool.false_ne_true), List.append_nil]
  have hall : (pre ++ x :: post).all (typeOk h ci.accepted) = false := by
    rw [List.all_append, List.all_cons, hx, Bool.false_and, Bool.and_false]
  have hm := run_adds_members tbl ci pre ⟨g, h, []⟩ hok
  obtain ⟨h3, h4⟩ := inv_run tbl ci (pre.map .add) ⟨g, h, []⟩ (inv_empty ci g h)
  rw [construct, addLoop_eq tbl, hpre, hall, if_neg Bool.false_ne_true]
  exact ⟨rfl, hm, fun u hu => (h3 u (by rw [hm]; exact hu)).1.trans (congrArg some h4)⟩

/-- **for every argument list** (right or wrong types, duplicates, members of other groups): whatever the constructor
leaves behind — accepted or raised — satisfies clauses 6–7 (every member has the new group as parent and is of the group's
type), and its members are a prefix of the argument -/
theorem construct_inv (ci : ClassInfo) (g : Nat) (h : Heap) (us : List Nat) :
    Inv ci (construct ci g h us).1 ∧ (construct ci g h us).1.gid = g ∧ (construct ci g h us).1.members <+: us := by
  obtain ⟨h1, h2⟩ := inv_run [] ci (((us.takeWhile (typeOk h ci.accepted))).map .add) ⟨g, h, []⟩ (inv_empty ci g h)
  rw [construct, addLoop_eq []]
  refine ⟨h1, h2, ?_⟩
  rw [run_adds_members [] ci _ ⟨g, h, []⟩ fun u hu => List.mem_takeWhile_imp hu]
  exact List.takeWhile_prefix _

end Constructor

/-- the value is handed to the members as a whole (the `else` branch of the setter runs) -/
def takesElse (d : Descriptor) (v : Val) : Bool :=
  match d.setter with
  | some (.broadcast s) =>
    (match s.test with
     | .isinst ks => !kindIn v.obj.kind ks
     | .sized => false
     | .allItems ks => v.obj.kind.isSome && !(v.items.all fun o => kindIn o.kind ks))
  | _ => false

/-- every object the members are offered is accepted by their own (raysect) setters and passes the group's
`RenderEngine` guards: then the only exceptions left are the group's own validations -/
def AcceptableAll (d : Descriptor) (v : Val) : Prop :=
  (∀ o ∈ v.items, Passes (elemChk d) o) ∧ (takesElse d v = true → Passes (scalarChk d) v.obj)

set_option linter.unusedVariables false in
/-- **group-level assignment, all four shapes**: if the members accept what they are offered and the assignment still
raises (wrong length, scalar where only a sequence is allowed, unsized value …), the whole world is untouched.
Admissibility of `d` is not what makes this true: over elements that pass (`Passes`) no zip loop raises, and every
broadcast loop offers every member the same object, so it raises at the first member or not at all
(`Setter.run_err_unchanged`). -/
theorem setAttr_rejected_unchanged (tbl : List Descriptor) (d : Descriptor) (hadm : d.admissible tbl = true) (w : World)
    (v : Val) (hacc : AcceptableAll d v) (he : (setAttr d w v).2 ≠ none) : (setAttr d w v).1 = w :=
  setAttr_cases (P := fun r => r.2 ≠ none → r.1 = w) d w v (fun _ _ => rfl)
    (fun s hs => s.run_err_unchanged w v (elemChk_eq hs ▸ hacc.1)) he

/-- a member-list setter that checks every element before adopting any either succeeds or leaves the world untouched -/
theorem memberSetter_rejected_unchanged (m : MemberSetter) (ha : m.atomic = true) (ci : ClassInfo) (w : World)
    (k : Option SeqKind) (us : List Nat) (he : (m.run ci w k us).2 ≠ none) : (m.run ci w k us).1 = w :=
  m.run_cases (P := fun r => r.2 ≠ none → r.1 = w) ci w k us (fun _ _ => rfl) (fun _ he => absurd rfl he)
    (fun h => absurd ha (by rw [h]; exact Bool.false_ne_true)) he

theorem admissible_members_atomic (tbl : List Descriptor) (d : Descriptor) (hadm : d.admissible tbl = true) (m : MemberSetter)
    (hs : d.setter = some (.members m)) : m.atomic = true := by
  -- the four broadcast-family shapes demand a broadcast setter
  have no : ∀ {B : Attr → Setter → Bool}, (match d.getter, d.setter with
      | .each a, some (.broadcast s) => B a s
      | _, _ => false) = true → False := fun h => by
    obtain ⟨_, _, _, h', _⟩ := each_broadcast_of h
    rw [hs] at h'
    cases h'
  rcases admissible_shape tbl d hadm with h | h | h | h | h
  · exact (no h).elim
  · exact (no h).elim
  · exact (no h).elim
  · simp only [Descriptor.wfMembers, hs, Bool.and_eq_true] at h
    exact h.2.2
  · exact (no h).elim

/-- **member-list assignment** (`observers`, `sight_lines` through its alias, `foil_detectors`): refused ⇒ untouched —
membership, every parent, every attribute -/
theorem setMembers_rejected_unchanged (tbl : List Descriptor) (hall : ∀ d ∈ tbl, d.admissible tbl = true) (ci : ClassInfo)
    (d : Descriptor) (hd : d ∈ tbl) (w : World) (k : Option SeqKind) (us : List Nat)
    (he : (setMembers tbl ci d w k us).2 ≠ none) : (setMembers tbl ci d w k us).1 = w :=
  setMembers_cases (P := fun r => r.2 ≠ none → r.1 = w) tbl ci d hd w k us (fun _ _ => rfl)
    (fun d' hd' m hs => memberSetter_rejected_unchanged m (admissible_members_atomic tbl d' (hall d' hd') m hs) ci w k us) he

/-- the values of an operation are acceptable to the members (only assignments carry values) -/
def OpAcceptable (tbl : List Descriptor) (ci : ClassInfo) : Op → Prop
  | .assign name v => ∀ d, findDesc tbl ci.name name = some d → AcceptableAll d v
  | _ => True

/-- **state-machine form**: for every table all of whose descriptors are admissible, every class, every world and every
operation of the group API (add, assignment, member-list assignment, rename): if the operation raises, the world —
membership, every observer's parent, every attribute of every object on the heap — is exactly what it was -/
theorem step_rejected_unchanged (tbl : List Descriptor) (hall : ∀ d ∈ tbl, d.admissible tbl = true) (ci : ClassInfo)
    (w : World) (op : Op) (hacc : OpAcceptable tbl ci op) (he : (step tbl ci w op).2 ≠ none) :
    (step tbl ci w op).1 = w := by
  refine step_cases (P := fun op r => OpAcceptable tbl ci op → r.2 ≠ none → r.1 = w) tbl ci w ?_ ?_ ?_
    (fun _ _ _ _ he => absurd rfl he) (fun _ _ _ _ => rfl) op hacc he
  · intro u _ he
    cases ht : typeOk w.heap ci.accepted u with
    | true => exact absurd (add_accepts ci w u ht).1 he
    | false => rw [add_rejects ci w u ht]
  · intro name v d s hf hs hacc
    exact s.run_err_unchanged w v (elemChk_eq hs ▸ (hacc d hf).1)
  · intro name k us d hd m hs _
    exact memberSetter_rejected_unchanged m (admissible_members_atomic tbl d (hall d hd) m hs) ci w k us

/-- hence a refused operation can be deleted from any history without changing where the history ends -/
theorem run_skip_rejected (tbl : List Descriptor) (hall : ∀ d ∈ tbl, d.admissible tbl = true) (ci : ClassInfo)
    (w : World) (op : Op) (ops : List Op) (hacc : OpAcceptable tbl ci op) (he : (step tbl ci w op).2 ≠ none) :
    run tbl ci w (op :: ops) = run tbl ci w ops := by
  simp only [run]
  rw [step_rejected_unchanged tbl hall ci w op hacc he]

/-- acceptability of the elements cannot be dropped: a `RenderEngine` guard that sits *inside* the zip loop (`render_engine`,
base.py:150-154) lets the elements in front of the offending one through before it raises -/
theorem engine_guard_in_loop_partial (a : Attr) (e : Err) (u u' : Nat) (us : List Nat) (o o' : Obj) (os : List Obj) (h : Heap)
    (ho : o.rej = none) (hoe : o.engine = true) (ho' : o'.engine = false) :
    (assignZip a true e (u :: u' :: us) (o :: o' :: os) h).2 = some e ∧
    (((assignZip a true e (u :: u' :: us) (o :: o' :: os) h).1) u).attrs a = o.stored := by
  rw [assignZip_cons (o := o) ⟨ho, fun _ => hoe⟩]
  simp [assignZip, ho']

/-- several groups over one heap: `focus` is the group being operated on, `others` are (node id, members) of the rest -/
structure Scene where
  focus : World
  others : List (Nat × List Nat)

/-- every member of every group has that group as scene-graph parent (and the focus group's members are of its type) -/
def Scene.Inv (ci : ClassInfo) (s : Scene) : Prop :=
  Cherab.Groups.Inv ci s.focus ∧ ∀ g ∈ s.others, g.1 ≠ s.focus.gid ∧ ∀ u ∈ g.2, (s.focus.heap u).parent = some g.1

def Scene.step (tbl : List Descriptor) (ci : ClassInfo) (s : Scene) (op : Op) : Scene :=
  { s with focus := (Cherab.Groups.step tbl ci s.focus op).1 }

/-- the observers an operation tries to adopt -/
def adoptees : Op → List Nat
  | .add u => [u]
  | .setMembers _ _ us => us
  | _ => []

/-- under the invariant no observer is a member of two groups -/
theorem scene_members_disjoint (ci : ClassInfo) (s : Scene) (hi : s.Inv ci) :
    (∀ g ∈ s.others, ∀ u ∈ g.2, u ∉ s.focus.members) ∧
    (∀ g ∈ s.others, ∀ g' ∈ s.others, g.1 ≠ g'.1 → ∀ u ∈ g.2, u ∉ g'.2) := by
  -- an observer has one parent
  refine ⟨fun g hg u hu hm => (hi.2 g hg).1 ?_, fun g hg g' hg' hne u hu hu' => hne ?_⟩
  · exact Option.some.inj (((hi.2 g hg).2 u hu).symm.trans (hi.1 u hm).1)
  · exact Option.some.inj (((hi.2 g hg).2 u hu).symm.trans ((hi.2 g' hg').2 u hu'))

theorem memberSetter_parent_frame (m : MemberSetter) (ci : ClassInfo) (w : World)
    (k : Option SeqKind) (us : List Nat) (x : Nat) (hx : x ∉ us) :
    ((m.run ci w k us).1.heap x).parent = (w.heap x).parent :=
  m.run_cases (P := fun r => (r.1.heap x).parent = (w.heap x).parent) ci w k us (fun _ => rfl)
    (fun _ => (reparentAll_spec w.gid us w.heap).2.1 x hx)
    (fun _ => (reparentAll_spec w.gid _ w.heap).2.1 x fun h => hx ((List.takeWhile_prefix _).subset h))

theorem step_parent_unadopted (tbl : List Descriptor) (ci : ClassInfo) (w : World) (op : Op) (x : Nat)
    (hx : x ∉ adoptees op) : ((Cherab.Groups.step tbl ci w op).1.heap x).parent = (w.heap x).parent := by
  refine Cherab.Groups.step_cases (P := fun op r => x ∉ adoptees op → (r.1.heap x).parent = (w.heap x).parent) tbl ci w
    ?_ ?_ (fun _ k us _ _ m _ hx => memberSetter_parent_frame m ci w k us x hx)
    (fun _ _ _ _ => setAttr_parent) (fun _ _ _ => rfl) op hx
  · intro u hx
    unfold addObserver
    split
    · exact setParent_parent_other fun e => hx (e ▸ List.mem_singleton_self u)
    · rfl
  · intro _ v _ s _ _ _
    obtain ⟨_, _, a, f⟩ := s.run_frame w v
    exact (f.2 x).1

set_option linter.unusedVariables false in
/-- through an admissible table, an operation changes the parent of nobody but the observers it adopts -/
theorem step_parent_frame (tbl : List Descriptor) (hall : ∀ d ∈ tbl, d.admissible tbl = true) (ci : ClassInfo) (w : World)
    (op : Op) (x : Nat) (hx : x ∉ adoptees op) :
    ((Cherab.Groups.step tbl ci w op).1.heap x).parent = (w.heap x).parent :=
  step_parent_unadopted tbl ci w op x hx

/-- **parent invariant over the whole scene, all histories**: every operation on one group — accepted or refused, through
any admissible table — keeps "every member of every group has that group as parent" (hence no observer in two groups),
provided the observers it adopts are not members of another group -/
theorem scene_inv_step (tbl : List Descriptor) (hall : ∀ d ∈ tbl, d.admissible tbl = true) (ci : ClassInfo) (s : Scene)
    (op : Op) (hi : s.Inv ci) (hforeign : ∀ u ∈ adoptees op, ∀ g ∈ s.others, u ∉ g.2) :
    (s.step tbl ci op).Inv ci := by
  obtain ⟨h1, h2⟩ := inv_step tbl ci s.focus op hi.1
  refine ⟨h1, fun g hg => ?_⟩
  obtain ⟨hne, hp⟩ := hi.2 g hg
  refine ⟨fun e => hne (e.trans h2), fun u hu => ?_⟩
  exact (step_parent_frame tbl hall ci s.focus op u fun hm => hforeign u hm g hg hu).trans (hp u hu)

theorem scene_inv_run (tbl : List Descriptor) (hall : ∀ d ∈ tbl, d.admissible tbl = true) (ci : ClassInfo) (ops : List Op)
    (s : Scene) (hi : s.Inv ci) (hforeign : ∀ op ∈ ops, ∀ u ∈ adoptees op, ∀ g ∈ s.others, u ∉ g.2) :
    (ops.foldl (fun s op => s.step tbl ci op) s).Inv ci := by
  induction ops generalizing s with
  | nil => exact hi
  | cons op ops ih =>
    simp only [List.foldl_cons]
    exact ih (s.step tbl ci op) (scene_inv_step tbl hall ci s op hi (hforeign op List.mem_cons_self))
      (fun op' h' => hforeign op' (List.mem_cons_of_mem _ h'))

/-- the proviso is necessary — **the code as it is lets one group take a member away from another**: `add_observer` of an
observer that is a member of another group is accepted, re-parents it, and leaves it in the other group's member tuple -/
theorem cross_group_add_steals (tbl : List Descriptor) (ci : ClassInfo) (s : Scene) (g : Nat × List Nat) (hg : g ∈ s.others)
    (u : Nat) (hu : u ∈ g.2) (ht : typeOk s.focus.heap ci.accepted u = true) (hne : g.1 ≠ s.focus.gid) :
    (Cherab.Groups.step tbl ci s.focus (.add u)).2 = none ∧ ¬ (s.step tbl ci (.add u)).Inv ci := by
  constructor
  · simp [Cherab.Groups.step, addObserver, ht]
  · intro hi
    have h := (hi.2 g hg).2 u hu
    simp only [Scene.step, Cherab.Groups.step, addObserver, ht, if_true, setParent_parent_same] at h
    exact hne (Option.some.inj h).symm

/-! ## Non-vacuity: the hypotheses are satisfiable by concrete, non-trivial instances -/

section Examples

/-- the descriptor the translator produces for `Observer0DGroup.spectral_bins` -/
def exBins : Descriptor :=
  { cls := "Observer0DGroup", name := "spectral_bins", definedIn := "Observer0DGroup", getterFn := "spectral_bins",
    getter := .each "spectral_bins",
    setter := some (.broadcast { fnName := "spectral_bins", decTarget := "spectral_bins", test := .isinst [.list, .tuple, .ndarray], lenCheck := true, lenErr := .valueError, seqAttr := "spectral_bins", elemEngineCheck := false, elemErr := .typeError, orelse := .broadcast "spectral_bins" false .typeError }) }

/-- … and for `names` -/
def exNames : Descriptor :=
  { cls := "Observer0DGroup", name := "names", definedIn := "Observer0DGroup", getterFn := "names",
    getter := .each "name",
    setter := some (.broadcast { fnName := "names", decTarget := "names", test := .isinst [.list, .tuple], lenCheck := true, lenErr := .valueError, seqAttr := "name", elemEngineCheck := false, elemErr := .typeError, orelse := .raise .typeError }) }

/-- the two property objects a `@sensitivity.setter def names` in `SpectroscopicSightLineGroup` creates (finding #10 of
DESIGN §6, fixed in /repo): `names` made of `sensitivity`'s getter and the new setter, and (`exNoSetter`) `sensitivity`
left without a setter -/
def exMisboundNames : Descriptor :=
  { cls := "SpectroscopicSightLineGroup", name := "names", definedIn := "SpectroscopicSightLineGroup", getterFn := "sensitivity",
    getter := .each "sensitivity",
    setter := some (.broadcast { fnName := "names", decTarget := "sensitivity", test := .isinst [.list, .tuple, .ndarray], lenCheck := true, lenErr := .valueError, seqAttr := "sensitivity", elemEngineCheck := false, elemErr := .typeError, orelse := .broadcast "sensitivity" false .typeError }) }

def exNoSetter : Descriptor :=
  { cls := "SpectroscopicSightLineGroup", name := "sensitivity", definedIn := "SpectroscopicSightLineGroup",
    getterFn := "sensitivity", getter := .each "sensitivity", setter := none }

def exClass : ClassInfo := { name := "Observer0DGroup", family := .observer0D, accepted := ["Observer0D"], addErr := .valueError }

/-- a group `100` with three distinct members whose every attribute initially holds the member's own id -/
def exWorld : World :=
  ⟨100, fun u => { attrs := fun _ => u, parent := some 100, types := ["SightLine", "Observer0D"] }, [1, 2, 3]⟩

def exScalar : Val := ⟨{ stored := 7 }, []⟩
def exList : Val := ⟨{ stored := 0, rej := some .typeError, kind := some .list }, [{ stored := 4 }, { stored := 5 }, { stored := 6 }]⟩
def exShort : Val := ⟨{ stored := 0, rej := some .typeError, kind := some .tuple }, [{ stored := 4 }]⟩

example : exBins.wfBroadcast = true := by decide +kernel
example : exNames.wfSeqOnly = true ∧ exNames.admissible [] = true := by decide +kernel
example : exWorld.members.Nodup := by decide +kernel
example : ¬ IsSeq exBins exScalar ∧ Passes (scalarChk exBins) exScalar.obj :=
  ⟨by decide +kernel, rfl, by decide +kernel⟩
example : IsSeq exBins exList ∧ exList.items.length = exWorld.members.length := by decide +kernel
example : getAttr exBins exWorld = .vals [1, 2, 3] := by decide +kernel
example : getAttr exBins (setAttr exBins exWorld exScalar).1 = .vals [7, 7, 7] := by decide +kernel
example : getAttr exBins (setAttr exBins exWorld exList).1 = .vals [4, 5, 6] := by decide +kernel
example : (setAttr exBins exWorld exShort).2 = some .valueError ∧
    getAttr exBins (setAttr exBins exWorld exShort).1 = .vals [1, 2, 3] := by decide +kernel
/-- a history: scalar, wrong length, list, other attribute — the list wins for `spectral_bins` -/
example : getAttr exBins (runAssign exWorld [(exBins, exScalar), (exBins, exShort), (exBins, exList), (exNames, exList)]) = .vals [4, 5, 6] := by
  decide +kernel
example : (setAttr exNames exWorld exScalar).2 = some .typeError := by decide +kernel
/-- the mis-bound descriptors are *not* admissible, assignment to the setter-less one raises, and the other reads `sensitivity` -/
example : exMisboundNames.admissible [] = false ∧ exNoSetter.admissible [] = false := by decide +kernel
example : (setAttr exNoSetter exWorld exScalar).2 = some .attributeError := by decide +kernel
example : getAttr exMisboundNames ⟨100, fun u => { attrs := fun a => if a = "name" then 50 + u else u }, [1, 2]⟩ = .vals [1, 2] := by decide +kernel
example : Inv exClass exWorld := by
  intro u hu; exact ⟨rfl, rfl⟩
example : (addObserver exClass exWorld 9).1.members = [1, 2, 3, 9] ∧ getItem exClass (addObserver exClass exWorld 9).1 (.int (-1)) = .objs [9] := by
  decide +kernel
example : getItem exClass exWorld (.slice (some 1) (some 3) none) = .objs [2, 3] ∧
    getItem exClass exWorld (.slice none none (some (-1))) = .objs [3, 2, 1] ∧
    getItem exClass exWorld (.str 2) = .objs [2] ∧ getItem exClass exWorld (.int 3) = .err .indexError := by decide +kernel
example : getItem { exClass with family := .bolometer } exWorld (.slice (some 0) (some 2) none) = .objs [1, 2] ∧
    getItem { exClass with family := .bolometer, sliceKeys := false } exWorld (.slice (some 0) (some 2) none) = .err .typeError := by
  decide +kernel

/-- an admissible table (hypothesis of `step_rejected_unchanged`), and refused operations through it: a wrong-length
assignment, a wrong-typed element in a member list, a wrong-typed argument of `add` -/
def exTable : List Descriptor :=
  [exBins, exNames,
   { cls := "Observer0DGroup", name := "observers", definedIn := "Observer0DGroup", getterFn := "observers", getter := .memberList,
     setter := some (.members { fnName := "observers", decTarget := "observers", kinds := [.list, .tuple], kindErr := .typeError, elemErr := .valueError, atomic := true }) }]

example : ∀ d ∈ exTable, d.admissible exTable = true := by decide +kernel
example : OpAcceptable exTable exClass (.assign "spectral_bins" exShort) := by
  intro d hd
  obtain rfl : exBins = d :=
    Option.some.inj ((by decide +kernel : findDesc exTable exClass.name "spectral_bins" = some exBins).symm.trans hd)
  unfold AcceptableAll Passes
  decide +kernel
example : (step exTable exClass exWorld (.assign "spectral_bins" exShort)).2 = some .valueError := by decide +kernel
/-- a wrong-typed object (id 77: types do not contain "Observer0D") in the middle of a member list, and as argument of add -/
def exWorld2 : World :=
  ⟨100, fun u => { attrs := fun _ => u, parent := if u = 77 then none else some 100,
                   types := if u = 77 then ["Sphere"] else ["SightLine", "Observer0D"] }, [1, 2, 3]⟩
example : (step exTable exClass exWorld2 (.setMembers "observers" (some .list) [1, 77, 2])).2 = some .valueError ∧
    (step exTable exClass exWorld2 (.add 77)).2 = some .valueError := by decide +kernel
/-- scene: group 200 (empty, focus) next to group 100 = [1, 2, 3]; adopting the free observer 9 keeps the invariant,
adopting observer 1 (a member of group 100) is accepted by the code and breaks it -/
def exScene : Scene :=
  ⟨⟨200, fun u => { attrs := fun _ => u, parent := if u = 9 then none else some 100, types := ["SightLine", "Observer0D"] }, []⟩,
   [(100, [1, 2, 3])]⟩
example : exScene.Inv exClass := ⟨inv_empty exClass _ _, by decide +kernel⟩
example : ∀ u ∈ adoptees (.add 9), ∀ g ∈ exScene.others, u ∉ g.2 := by decide +kernel
example : (Cherab.Groups.step exTable exClass exScene.focus (.add 1)).2 = none ∧
    ((exScene.step exTable exClass (.add 1)).focus.heap 1).parent = some 200 := by decide +kernel
/-- the `RenderEngine` guard inside the loop: first member already changed when the second element is refused -/
example : (assignZip "render_engine" true .typeError [1, 2] [{ stored := 8, engine := true }, { stored := 9 }] exWorld.heap).2 = some .typeError ∧
    (((assignZip "render_engine" true .typeError [1, 2] [{ stored := 8, engine := true }, { stored := 9 }] exWorld.heap).1) 1).attrs "render_engine" = 8 := by
  decide +kernel

/-- the hypothesis of `construct_accepts` is necessary and `construct_refused_partial` is not vacuous: a wrong object
in the middle (uid 77 is a Sphere) -/
example : (construct exClass 500 exWorld2.heap [1, 77, 2]).2 = some .valueError ∧
    (construct exClass 500 exWorld2.heap [1, 77, 2]).1.members = [1] ∧
    ((construct exClass 500 exWorld2.heap [1, 77, 2]).1.heap 1).parent = some 500 ∧
    ((construct exClass 500 exWorld2.heap [1, 77, 2]).1.heap 2).parent ≠ some 500 := by decide +kernel

example : (∀ u ∈ [1, 2, 3], typeOk exWorld.heap exClass.accepted u = true) ∧
    (construct exClass 500 exWorld.heap [1, 2, 3]).2 = none ∧
    (construct exClass 500 exWorld.heap [1, 2, 3]).1.members = [1, 2, 3] := by decide +kernel

end Examples

end Cherab.Props.C15
