import Cherab.Gen.RepoPaths

namespace Cherab.Props.C06Table
open Cherab.Gen.RepoPaths

/-- **`all_paths_under_root`**: every `install_*` hands `repository_path` to every `repository.update_*` it calls, and
so does every other caller of a function that takes `repository_path` (install_files, populate, add_* → update_*, …) -/
theorem all_paths_under_root : tables.rootPassed = true := by decide +kernel

end Cherab.Props.C06Table
