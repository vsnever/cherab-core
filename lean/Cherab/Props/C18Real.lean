import Cherab.Props.C18
import Cherab.Lemmas.Gaussian
import Mathlib.MeasureTheory.Group.Integral
import Mathlib.MeasureTheory.Integral.IntervalIntegral.Basic

/-!
# C18 — the integral clauses, over ℝ

The model functions of `Model/Laser.lean` instantiated at `ℝ` with `exp := Real.exp`, `π := Real.pi`,
`sqrt := Real.sqrt`.  Uses the shared Gaussian lemma `Cherab.Lemmas.gauss1d/gauss2d`
(∫∫ exp(−x²/2σx²) exp(−y²/2σy²) = 2π σx σy).
-/
namespace Cherab.Props.C18Real
open Cherab.Laser Cherab.Lemmas Real MeasureTheory

/-- the real instance of the external functions; `erf`, `floorDiv`, `toNat` are irrelevant for the integrals -/
noncomputable def realExt (c : ℝ) (erf : ℝ → ℝ) : Ext ℝ :=
  { c := c, pi := π, sqrt := Real.sqrt, exp := Real.exp, erf := erf, floorDiv := fun _ _ => 0, toNat := fun _ => 0 }

/-- the integrand is the right-hand side of `C18.bivEval_formula` -/
theorem gauss2d_unit (sx sy : ℝ) (hx : 0 < sx) (hy : 0 < sy) :
    ∫ p : ℝ × ℝ, 1 / (2 * π * sx * sy) * Real.exp (-(p.1 ^ 2 / (2 * sx ^ 2)) - p.2 ^ 2 / (2 * sy ^ 2)) = 1 := by
  have h : ∀ p : ℝ × ℝ, Real.exp (-(p.1 ^ 2 / (2 * sx ^ 2)) - p.2 ^ 2 / (2 * sy ^ 2))
      = Real.exp (-(1 / (2 * sx ^ 2)) * p.1 ^ 2) * Real.exp (-(1 / (2 * sy ^ 2)) * p.2 ^ 2) := fun p => by
    rw [← Real.exp_add]
    congr 1
    ring
  simp_rw [h]
  rw [integral_const_mul, gauss2d sx sy hx hy]
  exact one_div_mul_cancel (by positivity)

/-- **transverse_integral_unit**: the bivariate Gaussian shape integrates to one over every cross-section -/
theorem transverse_integral_unit (sx sy : ℝ) (hx : 0 < sx) (hy : 0 < sy) :
    ∫ p : ℝ × ℝ, bivEval Real.exp (bivCache π sx sy) p.1 p.2 = 1 := by
  simp_rw [C18.bivEval_formula Real.exp π sx sy _ _ hx.ne' hy.ne']
  exact gauss2d_unit sx sy hx hy

/-- ConstantBivariateGaussian: the energy density integrated over the cross-section is `E_p / (c τ)` at every z -/
theorem cbg_cross_section (c ep tau sx sy : ℝ) (erf : ℝ → ℝ) (hx : 0 < sx) (hy : 0 < sy) :
    ∫ p : ℝ × ℝ, cbgDensity (realExt c erf) ep tau sx sy p.1 p.2 = ep / (c * tau) := by
  simp only [cbgDensity, normalisation, realExt]
  rw [integral_const_mul, transverse_integral_unit sx sy hx hy, mul_one]

/-- the Gaussian-beam shape integrates to one over the cross-section at every axial position -/
theorem gbm_transverse_integral_unit (wl wz sw z : ℝ) (hsw : sw ≠ 0) :
    ∫ p : ℝ × ℝ, gbmEval π Real.exp wl wz sw p.1 p.2 z = 1 := by
  -- the shape formula with `σ(z) = √σ(z)²` for both widths
  have hs2 := (C18.gbm_sigma_ge_waist π sw wl wz z hsw).2
  have hs := Real.sqrt_pos.mpr hs2
  rw [← gauss2d_unit _ _ hs hs]
  congr 1
  funext p
  rw [C18.gbmEval_formula Real.exp π wl wz sw _ _ z hsw, mul_assoc (2 * π), Real.mul_self_sqrt hs2.le,
    Real.sq_sqrt hs2.le, add_div, neg_add, sub_eq_add_neg]

/-- GaussianBeamAxisymmetric: cross-section integral `E_p / (c τ)` at every axial position -/
theorem gba_cross_section (c ep tau wl wz sw z : ℝ) (erf : ℝ → ℝ) (hsw : sw ≠ 0) :
    ∫ p : ℝ × ℝ, gbaDensity (realExt c erf) ep tau wl wz sw p.1 p.2 z = ep / (c * tau) := by
  simp only [gbaDensity, normalisation, realExt]
  rw [integral_const_mul, gbm_transverse_integral_unit wl wz sw z hsw, mul_one]

theorem gauss1d_shift (σ μ : ℝ) (hσ : 0 < σ) :
    ∫ z : ℝ, Real.exp (-(1 / (2 * σ ^ 2)) * (z - μ) ^ 2) = σ * Real.sqrt (2 * π) := by
  rw [integral_sub_right_eq_self (fun z : ℝ => Real.exp (-(1 / (2 * σ ^ 2)) * z ^ 2)) μ]
  exact gauss1d σ hσ

/-- the trivariate shape integrates to one over ℝ³ -/
theorem trivariate_unit (mean sx sy sz : ℝ) (hx : 0 < sx) (hy : 0 < sy) (hz : 0 < sz) :
    ∫ p : ℝ × ℝ × ℝ, triEval Real.exp (triCache π Real.sqrt mean sx sy sz) p.1 p.2.1 p.2.2 = 1 := by
  have hsq : Real.sqrt (2 * π * (2 * π) * (2 * π)) = Real.sqrt (2 * π) * Real.sqrt (2 * π) * Real.sqrt (2 * π) := by
    rw [Real.sqrt_mul (by positivity), Real.sqrt_mul (by positivity)]
  have h : ∀ p : ℝ × ℝ × ℝ, triEval Real.exp (triCache π Real.sqrt mean sx sy sz) p.1 p.2.1 p.2.2
      = (1 / (Real.sqrt (2 * π * (2 * π) * (2 * π)) * sx * sy * sz)) *
        (Real.exp (-(1 / (2 * sx ^ 2)) * p.1 ^ 2) *
          ((fun q : ℝ × ℝ => Real.exp (-(1 / (2 * sy ^ 2)) * q.1 ^ 2) * Real.exp (-(1 / (2 * sz ^ 2)) * (q.2 - mean) ^ 2)) p.2)) := by
    intro p
    simp only [triEval, triCache, Laser.sq, C18.two_eq]
    rw [← Real.exp_add, ← Real.exp_add]
    congr 2
    ring
  simp_rw [h]
  rw [integral_const_mul, Measure.volume_eq_prod,
    integral_prod_mul (f := fun x : ℝ => Real.exp (-(1 / (2 * sx ^ 2)) * x ^ 2))
      (g := fun q : ℝ × ℝ => Real.exp (-(1 / (2 * sy ^ 2)) * q.1 ^ 2) * Real.exp (-(1 / (2 * sz ^ 2)) * (q.2 - mean) ^ 2)),
    Measure.volume_eq_prod,
    integral_prod_mul (f := fun y : ℝ => Real.exp (-(1 / (2 * sy ^ 2)) * y ^ 2))
      (g := fun z : ℝ => Real.exp (-(1 / (2 * sz ^ 2)) * (z - mean) ^ 2)),
    gauss1d sx hx, gauss1d sy hy, gauss1d_shift sz mean hz, hsq]
  have : Real.sqrt (2 * π) ≠ 0 := by positivity
  field_simp

/-- TrivariateGaussian: the full volume integral of the energy density is the pulse energy -/
theorem trivariate_volume_integral (c ep mean sx sy sz : ℝ) (erf : ℝ → ℝ) (hx : 0 < sx) (hy : 0 < sy) (hz : 0 < sz) :
    ∫ p : ℝ × ℝ × ℝ, triDensity (realExt c erf) ep mean sx sy sz p.1 p.2.1 p.2.2 = ep := by
  simp only [triDensity, realExt]
  rw [integral_const_mul, trivariate_unit mean sx sy sz hx hy hz, mul_one]

/-! ## GaussianSpectrum: bin power = ∫ density over the bin -/

/-- the real error function, `erf x = 2/√π ∫₀ˣ e^{−t²} dt` (Mathlib has none) -/
noncomputable def erfR (x : ℝ) : ℝ := 2 / Real.sqrt π * ∫ t in (0 : ℝ)..x, Real.exp (-t ^ 2)

theorem intervalIntegrable_gauss (a b : ℝ) : IntervalIntegrable (fun t : ℝ => Real.exp (-t ^ 2)) volume a b :=
  (by fun_prop : Continuous fun t : ℝ => Real.exp (-t ^ 2)).intervalIntegrable a b

theorem gaussEval_cached (mean σ x : ℝ) (hσ : 0 < σ) :
    gaussEval Real.exp (1 / (σ * Real.sqrt (two * π))) mean (1 / σ) x
      = (1 / (σ * Real.sqrt (2 * π))) * Real.exp (-(1 / (2 * σ ^ 2)) * (x - mean) ^ 2) := by
  rw [gaussEval, Laser.sq, C18.two_eq]
  congr 2
  norm_num
  field_simp

/-- the density `evaluate` with the constants cached by the `stddev` setter (`_normalisation = 1/(σ√(2π))`,
`_recip_stddev = 1/σ`) integrates over `[a, b]` to the erf difference used by `_get_bin_power_spectral_density`
(with `_norm_cdf = 1/(σ√2)`) -/
theorem gauss_density_integral (mean σ a b : ℝ) (hσ : 0 < σ) :
    ∫ x in a..b, gaussEval Real.exp (1 / (σ * Real.sqrt (two * π))) mean (1 / σ) x
      = 0.5 * (erfR ((b - mean) * (1 / (σ * Real.sqrt two))) - erfR ((a - mean) * (1 / (σ * Real.sqrt two)))) := by
  simp_rw [gaussEval_cached mean σ _ hσ]
  rw [C18.two_eq]
  -- substitute `t = k (x − μ)`, `k = 1/(σ√2)`, so that `k² = 1/(2σ²)`
  set k := 1 / (σ * Real.sqrt 2) with hk
  have hs2 : 0 < Real.sqrt 2 := by positivity
  have hkpos : 0 < k := by positivity
  have hk2 : k ^ 2 = 1 / (2 * σ ^ 2) := by
    rw [hk, div_pow, mul_pow, Real.sq_sqrt (by norm_num)]; ring
  have h : ∀ x : ℝ, Real.exp (-(1 / (2 * σ ^ 2)) * (x - mean) ^ 2)
      = (fun t : ℝ => Real.exp (-t ^ 2)) (k * x - k * mean) := by
    intro x
    rw [← hk2]
    congr 1
    ring
  simp_rw [h]
  rw [intervalIntegral.integral_const_mul, intervalIntegral.integral_comp_mul_sub (fun t : ℝ => Real.exp (-t ^ 2)) hkpos.ne' (k * mean)]
  have hA : (b - mean) * k = k * b - k * mean := by ring
  have hB : (a - mean) * k = k * a - k * mean := by ring
  rw [hA, hB, erfR, erfR,
    ← intervalIntegral.integral_interval_sub_left (intervalIntegrable_gauss 0 _) (intervalIntegrable_gauss 0 _)]
  -- `1/(σ√(2π)) · k⁻¹ = 1/√π = ½ · 2/√π`
  generalize (∫ t in (0 : ℝ)..k * b - k * mean, Real.exp (-t ^ 2)) = Ib
  generalize (∫ t in (0 : ℝ)..k * a - k * mean, Real.exp (-t ^ 2)) = Ia
  have h05 : (0.5 : ℝ) * 2 = 1 := by norm_num
  rw [Real.sqrt_mul (by norm_num) π, hk, smul_eq_mul, one_div (σ * √2), inv_inv, ← mul_assoc σ, one_div_mul_eq_div,
    mul_div_mul_left _ _ (mul_pos hσ hs2).ne', ← mul_sub, ← mul_assoc, ← mul_div_assoc, h05, one_div_mul_eq_div]

/-- … and the density is a unit-power line: it integrates to one over the whole axis, so the bin powers sum to one
in the limit where the range spans the line -/
theorem gauss_density_total (mean σ : ℝ) (hσ : 0 < σ) :
    ∫ x : ℝ, gaussEval Real.exp (1 / (σ * Real.sqrt (two * π))) mean (1 / σ) x = 1 := by
  simp_rw [gaussEval_cached mean σ _ hσ]
  rw [integral_const_mul, gauss1d_shift σ mean hσ]
  exact one_div_mul_cancel (by positivity)

end Cherab.Props.C18Real
