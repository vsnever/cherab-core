import Cherab.Model.Equilibrium
import Mathlib.Tactic.Ring
import Mathlib.Tactic.NormNum
import Mathlib.Data.List.Rotate

/-!
# C12 — the LCFS polygon mask

`PolygonMask2D.evaluate` (cherab/core/math/mask.pyx) and the winding-number test it falls back on, as transcribed in
`Cherab/Model/Equilibrium.lean` (`windingEdge`, `windingNumber`, `pointInsidePolygon`, `closePolygon`, `polygonMask`),
over an arbitrary ordered field.  The triangulated mesh value is a parameter.
-/
namespace Cherab.Props.C12
set_option linter.unusedSectionVars false
open Cherab.Equilibrium

variable {α : Type} [Field α] [LinearOrder α] [IsStrictOrderedRing α]

theorem ite_one_zero_eq_one_iff (P : Prop) [Decidable P] : (if P then (1 : α) else 0) = 1 ↔ P := by
  split_ifs with h
  · exact iff_of_true rfl h
  · exact iff_of_false zero_ne_one h

theorem ite_one_zero_pos_iff (P : Prop) [Decidable P] : 0 < (if P then (1 : α) else 0) ↔ P := by
  split_ifs with h
  · exact iff_of_true one_pos h
  · exact iff_of_false (lt_irrefl 0) h

/-! ## the mask as a decision -/

section
variable (mesh : α) (vs : List (α × α)) (x y : α)

theorem polygonMask_eq_ite :
    polygonMask mesh vs x y = if 0 < mesh ∨ windingNumber (closePolygon vs) x y ≠ 0 then 1 else 0 := by
  unfold polygonMask pointInsidePolygon
  by_cases h1 : 0 < mesh
  · rw [if_pos h1, if_pos (Or.inl h1)]
  · rw [if_neg h1]; exact if_congr (by rw [bne_iff_ne, or_iff_right h1]) rfl rfl

theorem polygonMask_zero_or_one : polygonMask mesh vs x y = 0 ∨ polygonMask mesh vs x y = 1 := by
  rw [polygonMask_eq_ite]; exact (ite_eq_or_eq _ _ _).symm

theorem polygonMask_eq_one_iff :
    polygonMask mesh vs x y = 1 ↔ (0 < mesh ∨ windingNumber (closePolygon vs) x y ≠ 0) := by
  rw [polygonMask_eq_ite]; exact ite_one_zero_eq_one_iff _

theorem polygonMask_pos_iff :
    0 < polygonMask mesh vs x y ↔ (0 < mesh ∨ windingNumber (closePolygon vs) x y ≠ 0) := by
  rw [polygonMask_eq_ite]; exact ite_one_zero_pos_iff _

end

/-- the fallback never removes a point the mesh had found (the C12-1 fix is monotone) -/
theorem polygonMask_of_mesh (mesh : α) (vs : List (α × α)) (x y : α) (h : 0 < mesh) : polygonMask mesh vs x y = 1 :=
  (polygonMask_eq_one_iff mesh vs x y).mpr (Or.inl h)

/-- **The mask is decided by the winding number alone** as soon as the triangulation is *sound* (a triangle is only found at
points of non-zero winding number).  Completeness of the mesh — what finding C12-1 refuted on internal triangulation edges —
is not needed: whatever the mesh answers at such a point, the mask is 1. -/
theorem polygonMask_eq_winding (mesh : α) (vs : List (α × α)) (x y : α)
    (sound : 0 < mesh → windingNumber (closePolygon vs) x y ≠ 0) :
    polygonMask mesh vs x y = if windingNumber (closePolygon vs) x y ≠ 0 then 1 else 0 := by
  rw [polygonMask_eq_ite]; exact if_congr ⟨fun h => h.elim sound id, Or.inr⟩ rfl rfl

theorem insideLcfs_eq_one_iff (poly psin : α) : insideLcfs poly psin = 1 ↔ (0 < poly ∧ psin ≤ 1) :=
  ite_one_zero_eq_one_iff _

/-- `inside_lcfs` with the mask written out: 1 iff (mesh or winding) and psi_n ≤ 1 -/
theorem insideLcfs_polygonMask (mesh psin : α) (vs : List (α × α)) (x y : α) :
    insideLcfs (polygonMask mesh vs x y) psin = 1 ↔
      ((0 < mesh ∨ windingNumber (closePolygon vs) x y ≠ 0) ∧ psin ≤ 1) := by
  rw [insideLcfs_eq_one_iff, polygonMask_pos_iff]

/-! ## the winding number is a sum over edges: independent of the starting vertex -/

/-- a path may be cut at any vertex -/
theorem windingNumber_split (l : List (α × α)) (m : α × α) (r : List (α × α)) (px py : α) :
    windingNumber (l ++ m :: r) px py = windingNumber (l ++ [m]) px py + windingNumber (m :: r) px py := by
  induction l using List.twoStepInduction with
  | nil => exact (zero_add _).symm
  | singleton a => exact congrArg (· + _) (add_zero _).symm
  | cons_cons a b t _ ih =>
    show windingEdge a b px py + windingNumber ((b :: t) ++ m :: r) px py =
      windingEdge a b px py + windingNumber ((b :: t) ++ [m]) px py + _
    rw [ih, add_assoc]

theorem windingNumber_closePolygon_concat (a : α × α) (t : List (α × α)) (px py : α) :
    windingNumber (closePolygon (t ++ [a])) px py = windingNumber (closePolygon (a :: t)) px py := by
  cases t with
  | nil => rfl
  | cons b t' =>
    -- `b … a b` against `a b … a`: the edge `a → b` moves from the front to the back
    have e1 : closePolygon (b :: t' ++ [a]) = (b :: t') ++ a :: [b] := by simp [closePolygon]
    have e2 : closePolygon (a :: b :: t') = a :: b :: (t' ++ [a]) := rfl
    rw [e1, e2, windingNumber_split]
    simp only [windingNumber, List.cons_append]
    ring

/-- **Representation independence**: the winding number, hence the mask, does not depend on which vertex the caller lists
first. -/
theorem windingNumber_rotate (vs : List (α × α)) (k : ℕ) (px py : α) :
    windingNumber (closePolygon (vs.rotate k)) px py = windingNumber (closePolygon vs) px py := by
  induction k with
  | zero => simp
  | succ k ih =>
    rw [← ih, ← List.rotate_rotate]
    cases vs.rotate k with
    | nil => rfl
    | cons a t => rw [List.rotate_cons_succ, List.rotate_zero, windingNumber_closePolygon_concat]

theorem polygonMask_rotate (mesh : α) (vs : List (α × α)) (k : ℕ) (x y : α) :
    polygonMask mesh (vs.rotate k) x y = polygonMask mesh vs x y := by
  unfold polygonMask pointInsidePolygon; rw [windingNumber_rotate]

/-! ## orientation -/

/-- `side` of the reversed edge is the negative: the edge contributes with the opposite sign -/
theorem windingEdge_swap (a b : α × α) (px py : α) : windingEdge b a px py = - windingEdge a b px py := by
  have hs : (a.1 - b.1) * (py - b.2) - (px - b.1) * (a.2 - b.2)
      = -((b.1 - a.1) * (py - a.2) - (px - a.1) * (b.2 - a.2)) := by ring
  unfold windingEdge
  rw [hs]
  generalize (b.1 - a.1) * (py - a.2) - (px - a.1) * (b.2 - a.2) = s
  simp only [gt_iff_lt, neg_pos, neg_lt_zero]
  rcases le_or_gt a.2 py with h1 | h1 <;> rcases le_or_gt b.2 py with h2 | h2
  · simp [h1, h2, not_lt.mpr h1, not_lt.mpr h2]
  · simp only [h1, not_le.mpr h2, h2, if_true, if_false]; split_ifs <;> simp
  · simp only [not_le.mpr h1, h1, h2, if_true, if_false]; split_ifs <;> simp
  · simp [not_le.mpr h1, not_le.mpr h2]

/-- traversing a path backwards negates its winding number -/
theorem windingNumber_reverse (l : List (α × α)) (px py : α) :
    windingNumber l.reverse px py = - windingNumber l px py := by
  induction l using List.twoStepInduction with
  | nil => rfl
  | singleton a => rfl
  | cons_cons a b t _ ih =>
    -- the reversed path is `t.reverse ++ [b, a]`: cut it at `b`, where the reversed `b :: t` ends
    rw [List.reverse_cons, List.reverse_cons, List.append_assoc, List.singleton_append, windingNumber_split,
      ← List.reverse_cons, ih]
    simp only [windingNumber]
    rw [windingEdge_swap a b]; ring

theorem windingNumber_closePolygon_reverse (vs : List (α × α)) (px py : α) :
    windingNumber (closePolygon vs.reverse) px py = - windingNumber (closePolygon vs) px py := by
  cases vs with
  | nil => rfl
  | cons a t =>
    -- the reversed list is `t.reverse` with `a` listed last, and closing `a :: t.reverse` reverses the closed `a :: t`
    have e : closePolygon (a :: t.reverse) = (closePolygon (a :: t)).reverse := by
      simp [closePolygon]
    rw [List.reverse_cons, windingNumber_closePolygon_concat, e, windingNumber_reverse]

/-- **Orientation independence**: a clockwise and an anticlockwise listing of the same boundary give the same answer of the
winding-number test (the mesh value is a separate input of `polygonMask`). -/
theorem pointInsidePolygon_reverse (vs : List (α × α)) (px py : α) :
    pointInsidePolygon (closePolygon vs.reverse) px py = pointInsidePolygon (closePolygon vs) px py := by
  unfold pointInsidePolygon
  rw [windingNumber_closePolygon_reverse, Bool.eq_iff_iff, bne_iff_ne, bne_iff_ne, ne_eq, neg_eq_zero]

/-! ## geometric meaning on a rectangle (half-open convention of the code) -/

theorem windingEdge_horizontal (x0 x1 y px py : α) : windingEdge (x0, y) (x1, y) px py = 0 := by
  unfold windingEdge; dsimp only
  by_cases h : y ≤ py
  · rw [if_pos h, if_neg (not_lt.mpr h)]
  · rw [if_neg h, if_neg h]

theorem windingEdge_vertical (x y0 y1 px py : α) (h : y0 < y1) :
    windingEdge (x, y0) (x, y1) px py = if (y0 ≤ py ∧ py < y1) ∧ px < x then 1 else 0 := by
  have hside : (x - x) * (py - y0) - (px - x) * (y1 - y0) = (x - px) * (y1 - y0) := by ring
  unfold windingEdge
  simp only [hside, gt_iff_lt, mul_pos_iff_of_pos_right (sub_pos.mpr h), sub_pos]
  by_cases h0 : y0 ≤ py
  · rw [if_pos h0]; simp only [h0, true_and, ite_and]
  · rw [if_neg h0, if_neg fun h1 => h0 (h.le.trans h1), if_neg fun hc => h0 hc.1.1]

/-- for the axis-aligned rectangle `[a, b] × [c, d]` listed anticlockwise the winding-number test is
`a ≤ x < b ∧ c ≤ y < d`: left and bottom edges belong to the polygon, right and top edges do not. -/
theorem pointInsidePolygon_rectangle (a b c d px py : α) (hab : a < b) (hcd : c < d) :
    pointInsidePolygon (closePolygon [(a, c), (b, c), (b, d), (a, d)]) px py = true ↔
      (a ≤ px ∧ px < b ∧ c ≤ py ∧ py < d) := by
  -- only the two vertical sides count: +1 left of `x = b`, −1 left of `x = a`
  have hw : windingNumber (closePolygon [(a, c), (b, c), (b, d), (a, d)]) px py
      = (if (c ≤ py ∧ py < d) ∧ px < b then 1 else 0) - (if (c ≤ py ∧ py < d) ∧ px < a then 1 else 0) := by
    simp only [closePolygon, List.take, List.cons_append, List.nil_append, windingNumber, windingEdge_horizontal,
      windingEdge_vertical _ _ _ _ _ hcd, windingEdge_swap (a, c) (a, d)]
    ring
  unfold pointInsidePolygon
  rw [hw, bne_iff_ne]
  by_cases hy : c ≤ py ∧ py < d
  · rcases lt_or_ge px a with h1 | h1
    · simp [hy, h1, h1.trans hab, not_le.mpr h1]
    · by_cases h2 : px < b
      · simp [hy, h1, h2, not_lt.mpr h1]
      · simp [hy, h2, not_lt.mpr h1]
  · simp only [hy, false_and, if_false, sub_self, ne_eq, not_true, false_iff]; tauto

/-- non-vacuity / the documented example of mask.pyx: `(0.5, 0.5)` inside, `(-0.5, 0.5)` outside the unit square -/
example : pointInsidePolygon (closePolygon [((0 : ℚ), (0 : ℚ)), (1, 0), (1, 1), (0, 1)]) (1 / 2) (1 / 2) = true :=
  (pointInsidePolygon_rectangle 0 1 0 1 _ _ (by norm_num) (by norm_num)).mpr (by norm_num)
example : ¬ pointInsidePolygon (closePolygon [((0 : ℚ), (0 : ℚ)), (1, 0), (1, 1), (0, 1)]) (-1 / 2) (1 / 2) = true := by
  rw [pointInsidePolygon_rectangle 0 1 0 1 _ _ (by norm_num) (by norm_num)]; norm_num

/-- non-vacuity of `polygonMask_eq_winding`: a crack point (mesh misses, winding number non-zero) of the unit square is inside -/
example : polygonMask (0 : ℚ) [(0, 0), (1, 0), (1, 1), (0, 1)] (1 / 2) (1 / 2) = 1 := by
  rw [polygonMask_eq_winding _ _ _ _ (fun h => absurd h (lt_irrefl _)), if_pos]
  exact bne_iff_ne.mp ((pointInsidePolygon_rectangle 0 1 0 1 _ _ (by norm_num) (by norm_num)).mpr (by norm_num))

end Cherab.Props.C12
