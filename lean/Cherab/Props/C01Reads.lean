import Cherab.Props.C01Table
import Cherab.Gen.CacheReads

/-!
# C01 — the read sets extracted from the fill functions are inside the dependency table and covered by the graph

`Cherab.Gen.CacheReads` (harness/translators/cache_reads.py) lists, per derived state, the property setters and scene-graph
placements whose value the cache-filling functions of the .pyx sources read (`_populate_cache` of the seven emission models,
`_calc_attenuation` / `_beam_attenuation` / `_beam_stopping` / `_populate_stopping_data_cache` of SingleRayAttenuator,
`Beam._generate_geometry`, `Beam._configure_geometry`, `Plasma._configure_geometry`).  It is regenerated on every run.
The hand-written table `CherabDeps.deps` contains every one of these syntactic reads (`reads_subset_deps`); its two laser
rows have no scanned fill function.  Coverage is monotone in the table (`coveredBy_of_rows_subset`), so `covered_cherab`
gives coverage, and the no-stale theorem, for the generated read relation itself (`reads_covered`, `no_stale_reads`).
-/
namespace Cherab.Props.C01
open Cherab.NotifyGraph Cherab.CherabDeps Cherab.Gen.NotifyEdges Cherab.Gen.CacheReads

/-- executable inclusion of dependency tables: every row of `t'` lies inside what `t` lists for the same cache -/
def rowsSubset (t' t : DepTable) : Bool := t'.all fun e => e.2.all fun p => (depsOf t e.1).contains p

theorem rowsSubset_iff {t' t : DepTable} : rowsSubset t' t = true ↔ ∀ c p, p ∈ depsOf t' c → p ∈ depsOf t c :=
  (all_deps_iff fun p c => (depsOf t c).contains p).trans (by simp only [List.contains_iff_mem])

/-- coverage is monotone: a table whose rows are inside a covered table is covered (any graph, any tables) -/
theorem coveredBy_of_rows_subset (names : List String) (es : List (Nat × Nat)) (fuel : Nat) (t t' : DepTable)
    (h : coveredBy names es fuel t = true) (hs : rowsSubset t' t = true) : coveredBy names es fuel t' = true :=
  coveredBy_iff.mpr fun c p hp => coveredBy_iff.mp h c p (rowsSubset_iff.mp hs c p hp)

example : rowsSubset [("c", ["p"])] [("c", ["q", "p"])] = true := by decide
example : rowsSubset [("c", ["p"])] [("d", ["p"])] = false := by decide
example : coveredBy ["p", "q", "c"] [(0, 2), (1, 2)] 3 [("c", ["p"])] = true :=
  coveredBy_of_rows_subset _ _ _ [("c", ["q", "p"])] _ (by decide) (by decide)

/-- the translator found every fill function and every cache node -/
theorem no_read_problems : readProblems = [] := by decide

/-- non-vacuity of the generated table: eleven derived states, each with at least three reads -/
theorem reads_table_nonempty : cacheReads.length = 11 ∧ cacheReads.all (fun e => decide (3 ≤ e.2.length)) = true := by decide

/-- the hand-written dependency table misses nothing the fill functions syntactically read -/
theorem reads_subset_deps : rowsSubset cacheReads deps = true := by decide +kernel

/-- every read of every fill function is invalidated by the code's own call / notification chains (source-derived on
both sides: the hand-written table occurs in the proof only, as a covered table that contains every read) -/
theorem reads_covered : coveredBy nodeNames edges fuel cacheReads = true :=
  coveredBy_of_rows_subset nodeNames edges fuel deps cacheReads covered_cherab reads_subset_deps

/-- `reads_covered`, named for its derivation from `covered_cherab` by monotonicity -/
theorem reads_covered_via_deps : coveredBy nodeNames edges fuel cacheReads = true :=
  reads_covered

/-- C01 for the dependency relation extracted from the source: any history, any derived state -/
theorem no_stale_reads (ops : List (Inval.Op String String)) (c : String) :
    let pr := protoOf nodeNames edges fuel cacheReads
    let s := Inval.run pr Inval.init ops
    (Inval.step pr s (.obs c)).2 = some ((pr.deps c).map s.ver) :=
  no_stale_of_coveredBy nodeNames edges fuel cacheReads reads_covered ops c

end Cherab.Props.C01
