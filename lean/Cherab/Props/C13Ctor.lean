import Cherab.Props.C13

/-!
# C13 — validation ladders, whole sampler entry points, nested wrappers, polygon listings

* the `__init__` ladders of the clamp / periodic wrappers and the range ladders of `sample{1,2,3}d` (`clampCtor*`,
  `periodicCtor*`, `sampleCtor*` of `Model/Wrappers.lean`): which `raise` fires for which arguments (for `sample2d/3d`
  only the accepting case); the contracts that `Props/C13.lean` *assumes* (`mn ≤ mx`, `0 < p`, `0 ≤ p`,
  `1 ≤ n`) are *derived* from "the constructor accepted";
* `sample1d/2d/3d` as whole entry points (ladder + linspace axes + loops): accepted ⇒ entry `[i,j,k]` is the function
  at `(x_i, y_j, z_k)` of the evenly spaced grid, rejected (`sample1d`, `sample3d`) ⇒ nothing is evaluated;
* linspace grids are monotone and stay inside `[min, max]`;
* nested wrappers (ClampOutput∘Periodic, AxisymmetricMapper∘Periodic, Slice∘ClampInput) are pointwise compositions;
* the crossing-number interior is the same for every listing of a polygon (`inPolygon_listing`).
-/
namespace Cherab.Props.C13
set_option linter.unusedSectionVars false
open Cherab.Wrappers

variable {α : Type} [Field α] [LinearOrder α] [IsStrictOrderedRing α]

/- A ladder of several rungs is resolved by `ite_eq_iff`, which reads each rung `if c then k else rest` as "`c` holds
and `k` is the code asked for, or `c` fails and `rest` gives it"; the comparisons of code numbers are then decided. -/

theorem clampCtor_accepts_iff (mn mx : α) : clampCtor mn mx = 0 ↔ mn < mx := by
  simp [clampCtor]

/-- complete characterisation of the ClampInput3D ladder: accepted iff every axis has `min < max`; otherwise the code
names the *first* offending axis -/
theorem clampCtor3_spec (a b c d e f : α) :
    (clampCtor3 a b c d e f = 0 ↔ a < b ∧ c < d ∧ e < f) ∧
    (clampCtor3 a b c d e f = 1 ↔ b ≤ a) ∧
    (clampCtor3 a b c d e f = 2 ↔ a < b ∧ d ≤ c) ∧
    (clampCtor3 a b c d e f = 3 ↔ a < b ∧ c < d ∧ f ≤ e) := by
  simp [clampCtor3, ite_eq_iff]

theorem clampCtor2_spec (a b c d : α) :
    (clampCtor2 a b c d = 0 ↔ a < b ∧ c < d) ∧ (clampCtor2 a b c d = 1 ↔ b ≤ a) ∧
    (clampCtor2 a b c d = 2 ↔ a < b ∧ d ≤ c) := by
  simp [clampCtor2, ite_eq_iff]

/-- derived contract: an *accepted* ClampInput3D hands the wrapped function arguments inside the box, and is the
identity on arguments that are already inside (`mn ≤ mx` is not assumed) -/
theorem clampInput3_checked {β : Type} (f : α → α → α → β) (a b c d e g x y z : α)
    (h : clampCtor3 a b c d e g = 0) :
    clampInput3 f a b c d e g x y z = f (clamp x a b) (clamp y c d) (clamp z e g) ∧
    (a ≤ clamp x a b ∧ clamp x a b ≤ b) ∧ (c ≤ clamp y c d ∧ clamp y c d ≤ d) ∧ (e ≤ clamp z e g ∧ clamp z e g ≤ g) ∧
    (a ≤ x → x ≤ b → c ≤ y → y ≤ d → e ≤ z → z ≤ g → clampInput3 f a b c d e g x y z = f x y z) := by
  obtain ⟨h1, h2, h3⟩ := (clampCtor3_spec a b c d e g).1.mp h
  refine ⟨rfl, clamp_range x a b h1.le, clamp_range y c d h2.le, clamp_range z e g h3.le, ?_⟩
  intro hx1 hx2 hy1 hy2 hz1 hz2
  rw [clampInput3, clamp_id x a b hx1 hx2, clamp_id y c d hy1 hy2, clamp_id z e g hz1 hz2]

/-- derived contract for an accepted ClampOutput wrapper -/
theorem clampOutput_checked {γ : Type} (f : γ → α) (mn mx : α) (x : γ) (h : clampCtor mn mx = 0) :
    mn ≤ clampOutput1 f mn mx x ∧ clampOutput1 f mn mx x ≤ mx ∧
    (mn ≤ f x → f x ≤ mx → clampOutput1 f mn mx x = f x) := by
  obtain ⟨h1, h2⟩ := clamp_range (f x) mn mx ((clampCtor_accepts_iff mn mx).mp h).le
  exact ⟨h1, h2, clamp_id (f x) mn mx⟩

example : clampCtor3 (0 : ℚ) 1 2 2 5 4 = 2 ∧ clampCtor3 (0 : ℚ) 1 2 3 4 5 = 0 ∧ clampCtor (1 : ℚ) 1 = 1 := by
  decide

theorem periodicCtor1_accepts_iff (p : α) : periodicCtor1 p = 0 ↔ 0 < p := by
  simp [periodicCtor1]

theorem periodicCtor3_spec (px py pz : α) :
    (periodicCtor3 px py pz = 0 ↔ 0 ≤ px ∧ 0 ≤ py ∧ 0 ≤ pz) ∧
    (periodicCtor3 px py pz = 1 ↔ px < 0) ∧
    (periodicCtor3 px py pz = 2 ↔ 0 ≤ px ∧ py < 0) ∧
    (periodicCtor3 px py pz = 3 ↔ 0 ≤ px ∧ 0 ≤ py ∧ pz < 0) := by
  simp [periodicCtor3, ite_eq_iff]

theorem periodicCtor2_spec (px py : α) :
    (periodicCtor2 px py = 0 ↔ 0 ≤ px ∧ 0 ≤ py) ∧ (periodicCtor2 px py = 1 ↔ px < 0) ∧
    (periodicCtor2 px py = 2 ↔ 0 ≤ px ∧ py < 0) := by
  simp [periodicCtor2, ite_eq_iff]

/-- derived contract: an accepted PeriodicTransform1D evaluates the wrapped function at a point of `[0, p)` congruent
to the argument -/
theorem periodic1_checked (fmod : α → α → α) (hf : FmodSpec fmod) {β : Type} (f : α → β) (p x : α)
    (h : periodicCtor1 p = 0) :
    ∃ a, periodic1 fmod f p x = f a ∧ 0 ≤ a ∧ a < p ∧ ∃ k : ℤ, a = x - k * p := by
  have hp := (periodicCtor1_accepts_iff p).mp h
  obtain ⟨h0, h1⟩ := remainder_range fmod hf x p hp
  exact ⟨remainder fmod x p, rfl, h0, h1, remainder_congruent fmod hf x p hp⟩

/-- what one axis of an accepted 2-D/3-D periodic wrapper does to its argument -/
def AxisImage (p x a : α) : Prop := (p = 0 ∧ a = x) ∨ (0 < p ∧ 0 ≤ a ∧ a < p ∧ ∃ k : ℤ, a = x - k * p)

theorem remainder_axisImage (fmod : α → α → α) (hf : FmodSpec fmod) (x p : α) (hp : 0 ≤ p) :
    AxisImage p x (remainder fmod x p) :=
  (remainder_axis fmod hf x p hp).imp_right fun ⟨hpos, h0, h1⟩ => ⟨hpos, h0, h1, remainder_congruent fmod hf x p hpos⟩

/-- derived contract for an accepted PeriodicTransform3D: axis by axis the wrapped function receives the argument
itself (period 0) or its image in `[0, p)` -/
theorem periodic3_checked (fmod : α → α → α) (hf : FmodSpec fmod) {β : Type} (f : α → α → α → β)
    (px py pz x y z : α) (h : periodicCtor3 px py pz = 0) :
    ∃ a b c, periodic3 fmod f px py pz x y z = f a b c ∧ AxisImage px x a ∧ AxisImage py y b ∧ AxisImage pz z c := by
  obtain ⟨h1, h2, h3⟩ := (periodicCtor3_spec px py pz).1.mp h
  exact ⟨_, _, _, rfl, remainder_axisImage fmod hf x px h1, remainder_axisImage fmod hf y py h2,
    remainder_axisImage fmod hf z pz h3⟩

theorem periodic2_checked (fmod : α → α → α) (hf : FmodSpec fmod) {β : Type} (f : α → α → β)
    (px py x y : α) (h : periodicCtor2 px py = 0) :
    ∃ a b, periodic2 fmod f px py x y = f a b ∧ AxisImage px x a ∧ AxisImage py y b := by
  obtain ⟨h1, h2⟩ := (periodicCtor2_spec px py).1.mp h
  exact ⟨_, _, rfl, remainder_axisImage fmod hf x px h1, remainder_axisImage fmod hf y py h2⟩

example : periodicCtor3 (0 : ℚ) 2 (-1) = 3 ∧ periodicCtor3 (0 : ℚ) 2 0 = 0 ∧ periodicCtor1 (0 : ℚ) = 1 := by decide
example : ∃ a, periodic1 fmodT (fun t : ℚ => t) 1 (-7/2) = a ∧ 0 ≤ a ∧ a < 1 := by
  obtain ⟨a, h1, h2, h3, _⟩ := periodic1_checked fmodT fmodT_spec (fun t : ℚ => t) 1 (-7/2) (by decide)
  exact ⟨a, h1, h2, h3⟩

theorem linspace_mono (mn mx : α) (h : mn ≤ mx) (n i j : Nat) (hij : i ≤ j) (hj : j < n) :
    linspace mn mx n i ≤ linspace mn mx n j := by
  by_cases hn : n ≤ 1
  · simp [linspace, hn]
  · rw [← sub_nonneg, linspace_sub mn mx n i j (by omega) (by omega) hj]
    exact mul_nonneg (sub_nonneg.mpr (Nat.cast_le.mpr hij))
      (div_nonneg (sub_nonneg.mpr h) (sub_nonneg.mpr (Nat.one_le_cast.mpr (by omega))))

theorem linspace_strictMono (mn mx : α) (h : mn < mx) (n i j : Nat) (hij : i < j) (hj : j < n) :
    linspace mn mx n i < linspace mn mx n j := by
  rw [← sub_pos, linspace_sub mn mx n i j (by omega) (by omega) hj]
  exact mul_pos (sub_pos.mpr (Nat.cast_lt.mpr hij))
    (div_pos (sub_pos.mpr h) (sub_pos.mpr (Nat.one_lt_cast.mpr (by omega))))

/-- every grid point lies in `[min, max]` -/
theorem linspace_mem_range (mn mx : α) (h : mn ≤ mx) (n i : Nat) (hi : i < n) :
    mn ≤ linspace mn mx n i ∧ linspace mn mx n i ≤ mx := by
  by_cases hn : n ≤ 1
  · simp [linspace, hn, h]
  · exact ⟨(linspace_first mn mx n (by omega)).ge.trans (linspace_mono mn mx h n 0 i (by omega) hi),
      (linspace_mono mn mx h n i (n - 1) (by omega) (by omega)).trans (linspace_last mn mx n (by omega)).le⟩

example : linspace (0 : ℚ) 1 5 1 < linspace (0 : ℚ) 1 5 3 := linspace_strictMono 0 1 (by norm_num) 5 1 3 (by omega) (by omega)

theorem sampleCtor1_spec (lx : Nat) (x0 x1 : α) (nx : Int) :
    (sampleCtor1 lx x0 x1 nx = 0 ↔ lx = 3 ∧ x0 ≤ x1 ∧ 1 ≤ nx) ∧
    (sampleCtor1 lx x0 x1 nx = 1 ↔ lx ≠ 3) ∧
    (sampleCtor1 lx x0 x1 nx = 2 ↔ lx = 3 ∧ x1 < x0) ∧
    (sampleCtor1 lx x0 x1 nx = 3 ↔ lx = 3 ∧ x0 ≤ x1 ∧ nx < 1) := by
  simp [sampleCtor1, ite_eq_iff]

theorem sampleCtor2_accepts_iff (lx ly : Nat) (x0 x1 y0 y1 : α) (nx ny : Int) :
    sampleCtor2 lx ly x0 x1 y0 y1 nx ny = 0 ↔
      lx = 3 ∧ ly = 3 ∧ x0 ≤ x1 ∧ y0 ≤ y1 ∧ 1 ≤ nx ∧ 1 ≤ ny := by
  simp [sampleCtor2, ite_eq_iff]

theorem sampleCtor3_accepts_iff (lx ly lz : Nat) (x0 x1 y0 y1 z0 z1 : α) (nx ny nz : Int) :
    sampleCtor3 lx ly lz x0 x1 y0 y1 z0 z1 nx ny nz = 0 ↔
      lx = 3 ∧ ly = 3 ∧ lz = 3 ∧ x0 ≤ x1 ∧ y0 ≤ y1 ∧ z0 ≤ z1 ∧ 1 ≤ nx ∧ 1 ≤ ny ∧ 1 ≤ nz := by
  simp [sampleCtor3, ite_eq_iff]

theorem grid_getElem? (mn mx : α) (n i : Nat) (hi : i < n) : (grid mn mx n)[i]? = some (linspace mn mx n i) := by
  simp [grid, hi]

theorem grid_getElem (mn mx : α) (n i : Nat) (hi : i < (grid mn mx n).length) :
    (grid mn mx n)[i] = linspace mn mx n i := by
  simp [grid]

/-- sample1d, whole entry point: accepted ranges give `n` evenly spaced points from `min` (to `max` when `n ≥ 2`),
in increasing order, and the k-th value is the function at the k-th point -/
theorem sample1d_accepted {β : Type} (f : α → β) (x0 x1 : α) (nx : Int) (h : sampleCtor1 3 x0 x1 nx = 0) :
    ∃ xs vs, sample1d f 3 x0 x1 nx = .ok (xs, vs) ∧ 1 ≤ nx.toNat ∧ xs.length = nx.toNat ∧ vs.length = nx.toNat ∧
      xs[0]? = some x0 ∧ (2 ≤ nx.toNat → xs[nx.toNat - 1]? = some x1) ∧
      (∀ i, i < nx.toNat → xs[i]? = some (linspace x0 x1 nx.toNat i) ∧ vs[i]? = some (f (linspace x0 x1 nx.toNat i))) ∧
      (∀ i j, i ≤ j → j < nx.toNat → linspace x0 x1 nx.toNat i ≤ linspace x0 x1 nx.toNat j) := by
  obtain ⟨-, hle, hn⟩ := (sampleCtor1_spec 3 x0 x1 nx).1.mp h
  have hn1 : 1 ≤ nx.toNat := by omega
  refine ⟨grid x0 x1 nx.toNat, sample1 f (grid x0 x1 nx.toNat), by simp [sample1d, h], hn1, grid_length _ _ _,
    by simp [sample1, grid_length], ?_, ?_, ?_, ?_⟩
  · rw [grid_getElem? x0 x1 _ 0 (by omega), linspace_first x0 x1 _ hn1]
  · intro h2
    rw [grid_getElem? x0 x1 _ _ (by omega), linspace_last x0 x1 _ h2]
  · intro i hi
    simp only [grid_getElem?, sample1_index, grid_length, grid_getElem, hi, and_self]
  · exact fun i j => linspace_mono x0 x1 hle _ i j

/-- a rejected range evaluates nothing and reports which check failed -/
theorem sample1d_rejected {β : Type} (f : α → β) (lx : Nat) (x0 x1 : α) (nx : Int)
    (h : sampleCtor1 lx x0 x1 nx ≠ 0) : sample1d f lx x0 x1 nx = .error (sampleCtor1 lx x0 x1 nx) := by
  simp [sample1d, h]

/-- sample2d: entry `[i][j]` is `f (x_i, y_j)` on the two linspace axes -/
theorem sample2d_accepted {β : Type} (f : α → α → β) (x0 x1 y0 y1 : α) (nx ny : Int)
    (h : sampleCtor2 3 3 x0 x1 y0 y1 nx ny = 0) :
    ∃ v, sample2d f 3 3 x0 x1 y0 y1 nx ny = .ok (grid x0 x1 nx.toNat, grid y0 y1 ny.toNat, v) ∧
      ∀ i j, i < nx.toNat → j < ny.toNat →
        (v[i]?.bind (·[j]?)) = some (f (linspace x0 x1 nx.toNat i) (linspace y0 y1 ny.toNat j)) := by
  refine ⟨sample2 f (grid x0 x1 nx.toNat) (grid y0 y1 ny.toNat), by simp [sample2d, h], ?_⟩
  intro i j hi hj
  simp only [sample2_index, grid_length, grid_getElem, hi, hj]

/-- sample3d: entry `[i][j][k]` is `f (x_i, y_j, z_k)` on the three linspace axes, in that index order -/
theorem sample3d_accepted {β : Type} (f : α → α → α → β) (x0 x1 y0 y1 z0 z1 : α) (nx ny nz : Int)
    (h : sampleCtor3 3 3 3 x0 x1 y0 y1 z0 z1 nx ny nz = 0) :
    ∃ v, sample3d f 3 3 3 x0 x1 y0 y1 z0 z1 nx ny nz =
        .ok (grid x0 x1 nx.toNat, grid y0 y1 ny.toNat, grid z0 z1 nz.toNat, v) ∧
      ∀ i j k, i < nx.toNat → j < ny.toNat → k < nz.toNat →
        ((v[i]?.bind (·[j]?)).bind (·[k]?)) =
          some (f (linspace x0 x1 nx.toNat i) (linspace y0 y1 ny.toNat j) (linspace z0 z1 nz.toNat k)) := by
  refine ⟨sample3 f (grid x0 x1 nx.toNat) (grid y0 y1 ny.toNat) (grid z0 z1 nz.toNat), by simp [sample3d, h], ?_⟩
  intro i j k hi hj hk
  simp only [sample3_index, grid_length, grid_getElem, hi, hj, hk]

theorem sample3d_rejected {β : Type} (f : α → α → α → β) (lx ly lz : Nat) (x0 x1 y0 y1 z0 z1 : α) (nx ny nz : Int)
    (h : sampleCtor3 lx ly lz x0 x1 y0 y1 z0 z1 nx ny nz ≠ 0) :
    sample3d f lx ly lz x0 x1 y0 y1 z0 z1 nx ny nz = .error (sampleCtor3 lx ly lz x0 x1 y0 y1 z0 z1 nx ny nz) := by
  simp [sample3d, h]

example : sampleCtor1 3 (0 : ℚ) 1 5 = 0 ∧ sampleCtor1 3 (1 : ℚ) 0 5 = 2 ∧ sampleCtor1 3 (0 : ℚ) 1 0 = 3 ∧
    sampleCtor1 2 (0 : ℚ) 1 5 = 1 := by decide
example : sampleCtor3 3 3 3 (0 : ℚ) 1 0 1 0 1 2 3 0 = 9 ∧ sampleCtor3 3 3 3 (0 : ℚ) 1 0 1 0 1 2 3 4 = 0 := by decide

/-- ClampOutput1D ∘ PeriodicTransform1D (both constructors accepted): the value is the clamped wrapped function at the
`[0,p)` image; hence it lies in `[mn, mx]`, is `p`-periodic, and on the base cell is `clamp (f x)` -/
theorem clampOutPeriodic1_spec (fmod : α → α → α) (hf : FmodSpec fmod) (f : α → α) (p mn mx x : α)
    (hp : periodicCtor1 p = 0) (hc : clampCtor mn mx = 0) :
    clampOutPeriodic1 fmod f p mn mx x = clamp (f (remainder fmod x p)) mn mx ∧
    (mn ≤ clampOutPeriodic1 fmod f p mn mx x ∧ clampOutPeriodic1 fmod f p mn mx x ≤ mx) ∧
    (∀ n : ℤ, clampOutPeriodic1 fmod f p mn mx (x + n * p) = clampOutPeriodic1 fmod f p mn mx x) ∧
    (0 ≤ x → x < p → clampOutPeriodic1 fmod f p mn mx x = clamp (f x) mn mx) := by
  have hp' := (periodicCtor1_accepts_iff p).mp hp
  have hc' := (clampCtor_accepts_iff mn mx).mp hc
  refine ⟨rfl, clamp_range _ mn mx hc'.le, ?_, ?_⟩
  · exact fun n => congrArg (clamp · mn mx) (periodic_shift fmod hf f x p hp' n)
  · exact fun h0 h1 => congrArg (clamp · mn mx) (periodic_on_base fmod hf f x p hp' ⟨h0, h1⟩)

/-- AxisymmetricMapper ∘ PeriodicTransform2D(f, 0, pz): invariant under rotation about z and under shifts of z by
whole periods; the wrapped function receives `(√(x²+y²), z mod pz)` -/
theorem axisymmetricPeriodic_spec (sqrt : α → α) (fmod : α → α → α) (hf : FmodSpec fmod) {β : Type} (f : α → α → β)
    (pz x y z x' y' : α) (hpz : 0 < pz) (n : ℤ) (hr : x * x + y * y = x' * x' + y' * y') :
    axisymmetricPeriodic sqrt fmod f 0 pz x y z = f (sqrt (x * x + y * y)) (remainder fmod z pz) ∧
    axisymmetricPeriodic sqrt fmod f 0 pz x' y' (z + n * pz) = axisymmetricPeriodic sqrt fmod f 0 pz x y z := by
  simp only [axisymmetricPeriodic, axisymmetric, periodic2, remainder_zero_period, remainder_shift fmod hf z pz hpz n,
    hr, and_self]

/-- Slice3D ∘ ClampInput3D: the fixed coordinate is clamped on the sliced axis, the free ones on the other two -/
theorem sliceClampInput3_spec {β : Type} (f : α → α → α → β) (a b c d e g v x y : α) :
    sliceClampInput3 f a b c d e g 0 v x y = f (clamp v a b) (clamp x c d) (clamp y e g) ∧
    sliceClampInput3 f a b c d e g 1 v x y = f (clamp x a b) (clamp v c d) (clamp y e g) ∧
    sliceClampInput3 f a b c d e g 2 v x y = f (clamp x a b) (clamp y c d) (clamp v e g) := by
  simp [sliceClampInput3, slice3, clampInput3]

example : clampOutPeriodic1 fmodT (fun t : ℚ => 10 * t) 1 2 3 (-(7/2)) = 3 := by
  have h := (clampOutPeriodic1_spec fmodT fmodT_spec (fun t : ℚ => 10 * t) 1 2 3 (1/2) (by decide) (by decide)).2.2
  have h1 := h.1 (-4)
  have h2 := h.2 (by norm_num) (by norm_num)
  norm_num at h1
  rw [h1, h2]
  norm_num [clamp]

/-- a listing of the closed polygon `l`: start at vertex `n`, optionally walk it the other way round -/
def listing (l : List (α × α)) (n : Nat) (rev : Bool) : List (α × α) :=
  if rev then (l.rotate n).reverse else l.rotate n

/-- every listing of the same closed polygon (any start vertex, either orientation) has the same crossing-number
interior: the K stream `mask-listing` evaluates `PolygonMask2D` on all `2·n` listings at the same points -/
theorem inPolygon_listing (px py : α) (l : List (α × α)) (n : Nat) (rev : Bool) :
    inPolygon px py (listing l n rev) = inPolygon px py l := by
  cases rev
  · exact inPolygon_rotate px py l n
  · exact (inPolygon_reverse px py _).trans (inPolygon_rotate px py l n)

example : listing [((2 : ℚ), (0 : ℚ)), (1, 1), (0, 0), (1, -1)] 2 true = [(1, 1), (2, 0), (1, -1), (0, 0)] ∧
    inPolygon (3/2 : ℚ) 0 [(2, 0), (1, 1), (0, 0), (1, -1)] = true ∧
    inPolygon (3/2 : ℚ) 0 (listing [(2, 0), (1, 1), (0, 0), (1, -1)] 2 true) = true := by
  refine ⟨?_, ?_, ?_⟩ <;> decide +kernel

end Cherab.Props.C13
