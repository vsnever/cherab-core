import Cherab.Lemmas.InstrumentMachines
import Cherab.Props.C16

/-!
# C16 — value-level machines of `Spectrometer` and `Polychromator`

"For any sequence of parameter changes to a spectrometer or polychromator, its spectral range, bin count, pixel
wavelength arrays and pipeline settings equal those of an instrument constructed directly with the final parameters" —
at the level of *values*, for the two classes that `ct_history_eq_fresh` (`Props/C16.lean`) does not cover.  The machines
(`Model/InstrumentMachines.lean`) transcribe `__init__`, the setters with their validation and the lazy getters.
-/
namespace Cherab.Props.C16Machines
set_option linter.unusedSectionVars false
open Cherab.Instruments Cherab.Lemmas.InstrumentMachines

section machine
variable {α : Type} [Add α] [Sub α] [Mul α] [Div α] [Neg α] [Zero α] [One α] [OfScientific α] [NatCast α]
  [LT α] [LE α] [DecidableLT α] [DecidableLE α]

/-- what a call returns is a function of the parameters alone, in every state satisfying the invariant -/
theorem sp_obs_of_inv (ceil : α → Int) (s : SpState α) (o : SpOp α) (h : SpInv ceil s) :
    (spStep ceil s o).2 = (spStep ceil (spFresh s.p) o).2 := by
  have e : (spFill ceil s).2 = (spFill ceil (spFresh s.p)).2 := by
    rw [(spInv_fill ceil s h).2, (spInv_fill ceil _ (spInv_fresh ceil s.p)).2]; rfl
  have ew : (spFill ceil s).1.p = (spFill ceil (spFresh s.p)).1.p := by rw [spFill_p, spFill_p]; rfl
  cases o with
  | setW2p v => simp only [spStep_setW2p]; split <;> rfl
  | setMbpp v => simp only [spStep_setMbpp]; split <;> rfl
  | setName v | getW2p | getMbpp | getName => rfl
  | getMin | getMax | getBins | calibrate I a b =>
    simp only [spStep_getMin, spStep_getMax, spStep_getBins, spStep_calibrate, e, ew]
  | getWavelengths => exact congrArg MOut.arrays h.wavelengths
  | getClasses =>
    simp only [spStep, spFresh]
    cases hk : s.classes with
    | some n => simp only; rw [h.classes n hk]; rfl
    | none => rfl
  | getKwargs =>
    simp only [spStep, spFresh]
    cases hk : s.kwargs with
    | some k => simp only; rw [h.kwargs k hk]
    | none => rfl

/-- **`Spectrometer.__init__` is the fresh instrument**: the constructor succeeds exactly when `min_bins_per_pixel > 0`
and every array is accepted, and then yields the state with those parameters and every cache empty -/
theorem sp_init_eq_fresh (w2p : List (List α)) (mbpp : Int) (name : String) :
    spInit w2p mbpp name
      = if 0 < mbpp ∧ w2pAccepted w2p = true then some (spFresh ⟨w2p, mbpp.toNat, name⟩) else none := by
  by_cases hm : mbpp ≤ 0
  · have : ¬ 0 < mbpp := by omega
    simp [spInit, spSetMbpp, hm, this]
  · have hm' : 0 < mbpp := by omega
    by_cases hv : w2pAccepted w2p = true
    · simp [spInit, spSetMbpp, spSetW2p, spSetName, spBlank, spFresh, hm, hm', hv]
    · simp [spInit, spSetMbpp, spSetW2p, hm, hv]

theorem sp_init_some {w2p : List (List α)} {mbpp : Int} {name : String} {s0 : SpState α}
    (h0 : spInit w2p mbpp name = some s0) :
    0 < mbpp ∧ w2pAccepted w2p = true ∧ s0 = spFresh ⟨w2p, mbpp.toNat, name⟩ := by
  rw [sp_init_eq_fresh] at h0
  split at h0
  · rename_i hc; exact ⟨hc.1, hc.2, (Option.some.inj h0).symm⟩
  · cases h0

/-- **settings, pixel arrays and calibration follow the parameters, value level** (`Spectrometer`): after any history
of accepted or rejected assignments, reads and calibrations, the next call returns what a freshly constructed
instrument with the final parameters returns -/
theorem sp_history_eq_fresh (ceil : α → Int) (p0 : SpParams α) (ops : List (SpOp α)) (o : SpOp α) :
    (spStep ceil (spRun ceil (spFresh p0) ops) o).2
      = (spStep ceil (spFresh (spRun ceil (spFresh p0) ops).p) o).2 :=
  sp_obs_of_inv ceil _ o (spInv_run ceil _ ops (spInv_fresh ceil p0))

/-- a rejected assignment (`ValueError`) leaves the instrument exactly as it was -/
theorem sp_rejected_unchanged (ceil : α → Int) (s : SpState α) (o : SpOp α) (hset : o.isSetter = true)
    (h : (spStep ceil s o).2 = .valueError) : (spStep ceil s o).1 = s := by
  cases o with
  | setW2p v =>
    rw [spStep_setW2p] at h ⊢
    exact Cherab.Lemmas.Instruments.fst_ite_of_snd h nofun fun _ => rfl
  | setMbpp v =>
    rw [spStep_setMbpp] at h ⊢
    exact Cherab.Lemmas.Instruments.fst_ite_of_snd h (fun _ => rfl) nofun
  | setName v => cases h
  | _ => cases hset

/-- interleaved reads and calibrations do not influence what is returned at the end: only the assignments matter -/
theorem sp_observations_do_not_matter (ceil : α → Int) (p0 : SpParams α) (ops : List (SpOp α)) (o : SpOp α) :
    (spStep ceil (spRun ceil (spFresh p0) ops) o).2
      = (spStep ceil (spRun ceil (spFresh p0) (ops.filter SpOp.isSetter)) o).2 := by
  rw [sp_history_eq_fresh ceil p0 ops o, sp_history_eq_fresh ceil p0 (ops.filter SpOp.isSetter) o,
    spRun_p_filter ceil (spFresh p0) (spFresh p0) ops rfl]

/-- **the stored pixel arrays are always accepted layouts**: whatever the history, an instrument that was constructed
holds arrays with at least two strictly increasing edges each (the contract `ValidW2P` that the arithmetic theorems of
`Props/C16.lean` assume is established by the constructor and kept by every call) -/
theorem sp_history_accepted (ceil : α → Int) (w2p : List (List α)) (mbpp : Int) (name : String) (s0 : SpState α)
    (h0 : spInit w2p mbpp name = some s0) (ops : List (SpOp α)) :
    w2pAccepted (spRun ceil s0 ops).p.w2p = true ∧ 0 < (spRun ceil s0 ops).p.mbpp := by
  obtain ⟨hm, hv, rfl⟩ := sp_init_some h0
  exact spRun_accepted ceil _ ops ⟨hv, by simp only [spFresh]; omega⟩

/-- the `take` that stands for `zip(classes, kwargs)` does not truncate: under the invariant both caches have one entry
per filter -/
theorem polyStep_createPipelines (x : PolyExt α) (s : PolyState α) (h : PolyInv x s) :
    (polyStep x s .createPipelines).2 = .kwargs (polyKwargs s.p) := by
  have h1 := polyFillClasses_spec x s h
  simp only [polyStep]
  rw [(polyFillKwargs_spec x _ h1.1).2, polyFillClasses_p, h1.2]
  congr 1
  exact List.take_of_length_le (by simp [polyKwargs])

theorem poly_obs_of_inv (x : PolyExt α) (s : PolyState α) (o : PolyOp α) (h : PolyInv x s) :
    (polyStep x s o).2 = (polyStep x (polyFresh s.p) o).2 := by
  have hi := polyInv_fresh x s.p
  cases o with
  | setFilters v => simp only [polyStep_setFilters]; split <;> rfl
  | setMbpw v => simp only [polyStep_setMbpw]; split <;> rfl
  | setName v | getFilters | getMbpw | getName => rfl
  | getMin | getMax | getBins => simp only [polyStep, (polyFill_spec x s h).2, (polyFill_spec x _ hi).2]; rfl
  | getClasses => simp only [polyStep, (polyFillClasses_spec x s h).2, (polyFillClasses_spec x _ hi).2]; rfl
  | getKwargs => simp only [polyStep, (polyFillKwargs_spec x s h).2, (polyFillKwargs_spec x _ hi).2]; rfl
  | createPipelines => rw [polyStep_createPipelines x s h, polyStep_createPipelines x _ hi]; rfl

/-- **`Polychromator.__init__` is the fresh instrument**; the validation order is `min_bins_per_window` (`ValueError`)
before `filters` (`TypeError`) -/
theorem poly_init_eq_fresh (filters : List (Option (String × PFilter α))) (mbpw : Int) (name : String) :
    polyInit filters mbpw name
      = if mbpw ≤ 0 then .inr .valueError
        else if filters.all Option.isSome = true then .inl (polyFresh ⟨filters.filterMap id, mbpw.toNat, name⟩)
        else .inr .typeError := by
  by_cases hm : mbpw ≤ 0
  · simp [polyInit, polySetMbpw, hm]
  · by_cases hv : filters.all Option.isSome = true
    · simp only [polyInit, polySetMbpw, polySetFilters, polySetName, polyBlank, polyFresh, hm, hv, if_true, if_false]
    · simp [polyInit, polySetMbpw, polySetFilters, hm, hv]

/-- **settings and pipelines follow the parameters, value level** (`Polychromator`): after any history of accepted or
rejected assignments and reads (`create_pipelines()` included) the next call returns what a freshly constructed
polychromator with the final filters, `min_bins_per_window` and name returns -/
theorem poly_history_eq_fresh (x : PolyExt α) (p0 : PolyParams α) (ops : List (PolyOp α)) (o : PolyOp α) :
    (polyStep x (polyRun x (polyFresh p0) ops) o).2
      = (polyStep x (polyFresh (polyRun x (polyFresh p0) ops).p) o).2 :=
  poly_obs_of_inv x _ o (polyInv_run x _ ops (polyInv_fresh x p0))

/-- a call that raises (`ValueError` from `min_bins_per_window`, `TypeError` from `filters`) leaves the polychromator
exactly as it was — no hypothesis on the call: getters never raise in the model -/
theorem poly_rejected_unchanged (x : PolyExt α) (s : PolyState α) (o : PolyOp α)
    (h : (polyStep x s o).2 = .valueError ∨ (polyStep x s o).2 = .typeError) : (polyStep x s o).1 = s := by
  cases o with
  | setFilters v =>
    rw [polyStep_setFilters] at h ⊢
    exact h.elim (Cherab.Lemmas.Instruments.fst_ite_of_snd · nofun fun _ => rfl)
      (Cherab.Lemmas.Instruments.fst_ite_of_snd · nofun fun _ => rfl)
  | setMbpw v =>
    rw [polyStep_setMbpw] at h ⊢
    exact h.elim (Cherab.Lemmas.Instruments.fst_ite_of_snd · (fun _ => rfl) nofun)
      (Cherab.Lemmas.Instruments.fst_ite_of_snd · (fun _ => rfl) nofun)
  | _ => rcases h with h | h <;> cases h

theorem poly_observations_do_not_matter (x : PolyExt α) (p0 : PolyParams α) (ops : List (PolyOp α)) (o : PolyOp α) :
    (polyStep x (polyRun x (polyFresh p0) ops) o).2
      = (polyStep x (polyRun x (polyFresh p0) (ops.filter PolyOp.isSetter)) o).2 := by
  rw [poly_history_eq_fresh x p0 ops o, poly_history_eq_fresh x p0 (ops.filter PolyOp.isSetter) o,
    polyRun_p_filter x (polyFresh p0) (polyFresh p0) ops rfl]

/-- **pipeline settings**: after any history `create_pipelines()` yields exactly one pipeline per current filter, in the
caller's order, named `instrument: filter` (the names are `polyPipelineNames`, the function tied by the `polynames`
stream) and carrying that filter — `zip(classes, kwargs)` never truncates -/
theorem poly_pipelines_follow (x : PolyExt α) (p0 : PolyParams α) (ops : List (PolyOp α)) :
    ∃ l, (polyStep x (polyRun x (polyFresh p0) ops) .createPipelines).2 = .kwargs l ∧
      l.map (·.1) = polyPipelineNames (polyRun x (polyFresh p0) ops).p.name
        ((polyRun x (polyFresh p0) ops).p.filters.map (·.1)) ∧
      l.map (·.2) = (polyRun x (polyFresh p0) ops).p.filters := by
  refine ⟨_, polyStep_createPipelines x _ (polyInv_run x _ ops (polyInv_fresh x p0)), ?_, ?_⟩
  · simp [polyKwargs, polyPipelineNames, List.map_map, Function.comp_def]
  · simp [polyKwargs, List.map_map, Function.comp_def]

end machine

/-! ## consequences over an ordered field: the derived contract feeds the arithmetic theorems -/

section field
variable {α : Type} [Field α] [LinearOrder α] [IsStrictOrderedRing α]

/-- **the range covers every pixel, for all histories**: on a constructed `Spectrometer`, after any history, if the
range getters answer then every stored pixel edge lies in `[min_wavelength, max_wavelength]`, and (with the real
ceiling) the bin width never exceeds any pixel's width divided by `min_bins_per_pixel` — the hypotheses `ValidW2P` and
`0 < mbpp` of `range_covers_pixels` / `bin_width_bound` are derived from the machine, not assumed -/
theorem sp_history_range_and_bins [FloorRing α] (w2p : List (List α)) (mbpp : Int) (name : String) (s0 : SpState α)
    (h0 : spInit w2p mbpp name = some s0) (ops : List (SpOp α)) (st : Settings α)
    (hs : (spFill Int.ceil (spRun Int.ceil s0 ops)).2 = some st) :
    (∀ arr ∈ (spRun Int.ceil s0 ops).p.w2p, ∀ e ∈ arr, st.minW ≤ e ∧ e ≤ st.maxW) ∧
    0 < st.bins ∧
    ∀ arr ∈ (spRun Int.ceil s0 ops).p.w2p, ∀ d ∈ diffs arr,
      (st.maxW - st.minW) / (st.bins : α) ≤ d / ((spRun Int.ceil s0 ops).p.mbpp : α) := by
  obtain ⟨hacc, hm⟩ := sp_history_accepted Int.ceil w2p mbpp name s0 h0 ops
  obtain ⟨_, _, rfl⟩ := sp_init_some h0
  -- by the invariant the answer `st` is `spectralSettings` of the stored arrays and `min_bins_per_pixel`
  have hq := (spInv_fill Int.ceil _ (spInv_run Int.ceil _ ops (spInv_fresh Int.ceil _))).2.symm.trans hs
  have hv : Cherab.Props.C16.ValidW2P _ := List.all_eq_true.mp hacc
  exact ⟨Cherab.Props.C16.range_covers_pixels hv hq, Cherab.Props.C16.bin_width_bound hv hm hq⟩

end field

/-! ## non-vacuity -/

/-- a constructed spectrometer (the hypothesis `h0` of `sp_history_accepted` / `sp_history_range_and_bins`) -/
example : spInit [[1, 2, 4], [3, (3.5 : ℚ)]] 2 "a" = some (spFresh ⟨[[1, 2, 4], [3, 3.5]], 2, "a"⟩) := by
  rw [sp_init_eq_fresh]; norm_num [w2pAccepted, validEdges]; rfl

/-- both rejections occur and are `ValueError`s (hypotheses of `sp_rejected_unchanged`) -/
example (s : SpState ℚ) : (spStep Int.ceil s (.setMbpp (-1))).2 = .valueError ∧
    (spStep Int.ceil s (.setW2p [[1, 1]])).2 = .valueError ∧ (SpOp.setW2p [[1, (1 : ℚ)]]).isSetter = true := by
  refine ⟨by simp [spStep, spSetMbpp], ?_, rfl⟩
  rw [spStep_setW2p]; norm_num [w2pAccepted, validEdges]

/-- a history on which `sp_history_eq_fresh` says something: the filled settings are dropped by an accepted assignment -/
example (p : SpParams ℚ) :
    (spRun Int.ceil (spFresh p) [.getBins, .setW2p [[2, 3]]]).settings = none ∧
    (spRun Int.ceil (spFresh p) [.getBins, .setW2p [[2, 3]]]).p.w2p = [[2, 3]] := by
  have hv : w2pAccepted [[2, (3 : ℚ)]] = true := by norm_num [w2pAccepted, validEdges]
  constructor <;> simp only [spRun, List.foldl, spStep_setW2p, hv, if_true]

/-- polychromator: both kinds of rejection occur; a constructed instance exists; a history changes the name -/
example (x : PolyExt ℚ) (s : PolyState ℚ) : (polyStep x s (.setFilters [none])).2 = .typeError ∧
    (polyStep x s (.setMbpw 0)).2 = .valueError ∧
    (∃ s0, polyInit (α := ℚ) [some ("f", filterOf 1 2)] 10 "p" = .inl s0) ∧
    (polyRun x s [.createPipelines, .setName "q"]).kwargs = none ∧
    (polyRun x s [.createPipelines, .setName "q"]).p.name = "q" := by
  refine ⟨by simp [polyStep, polySetFilters], by simp [polyStep, polySetMbpw], ?_, ?_, ?_⟩
  · rw [poly_init_eq_fresh]; simp
  · simp [polyRun, polyStep, polySetName]
  · simp [polyRun, polyStep, polySetName]

end Cherab.Props.C16Machines
