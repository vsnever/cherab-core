import Cherab.Props.C10

/-!
# C10: the shrunk bounding primitives keep every sampled index inside the voxel map; the 1D/2D pipeline mean

* `box_points_cell_in_map` — raytransfer.py:253-268: for EVERY point of the `Box(Point3D(0,0,0), Point3D(xmax-1e-5·dx, …))`
  built by `RayTransferBox`, `cartCell` (emitters.pyx:206-208) is a valid index of a voxel map of shape `(nx, ny, nz)`:
  `VMap.look` returns `some`, i.e. `integrate` never takes the IndexError branch for samples inside the primitive.
* `cyl_shrunk_inside_grid`, `cyl_points_rz_in_map` — raytransfer.py:183-200: the same for the r and z indices of every point
  between the two coaxial cylinders `[radius_inner + 1e-5·dr, radius_outer - 1e-5·dr] × [0, height - 1e-5·dz]`
  (the φ index is `phi_index_in_range`).
* `unshrunk_box_corner_out_of_map` — why the shrink is there: the corner `xmax` itself has index `nx`.
* `pipe1D_fold_get`, `pipe1D_observe_is_mean` — pipelines.py (1D/2D `update`): after an observe every pixel that got a task
  holds `packed / pixel_samples` of its LAST task, every other pixel holds zeros.
* `pixelProcess_nil`, `pixelProcess_snoc` — the pixel processor is the running sum `Σ spectrum.samples [· sensitivity]`.
-/

namespace Cherab.Props.C10
open Cherab.RayTransfer

section geom
variable {α : Type} [Field α] [LinearOrder α] [IsStrictOrderedRing α] [FloorRing α]

/-- one axis: a coordinate in `[0, u]` with `u < n·d` has its truncated index in `[0, n)` -/
theorem axis_index_of_le_upper (trunc : α → Int) (ht : TruncSpec trunc) (x d u : α) (n : Nat) (hd : 0 < d)
    (hu : u < n * d) (hx0 : 0 ≤ x) (hx1 : x ≤ u) : 0 ≤ trunc (x / d) ∧ trunc (x / d) < (n : Int) :=
  cart_index_in_range trunc ht x d n hd hx0 (lt_of_le_of_lt hx1 hu)

/-- **every point of the bounding `Box` of `RayTransferBox` samples a cell inside the voxel map** (all grid shapes, all box
sizes, every truncation satisfying `TruncSpec`): the lookup that `integrate` / `emission_function` perform does not fail. -/
theorem box_points_cell_in_map (trunc : α → Int) (ht : TruncSpec trunc) (xmax ymax zmax : α) (nx ny nz : Nat)
    (hx : 0 < xmax) (hy : 0 < ymax) (hz : 0 < zmax) (hnx : 0 < nx) (hny : 0 < ny) (hnz : 0 < nz)
    (vm : VMap) (h0 : vm.n0 = nx) (h1 : vm.n1 = ny) (h2 : vm.n2 = nz) (x y z : α)
    (hx0 : 0 ≤ x) (hx1 : x ≤ (boxGeom xmax ymax zmax nx ny nz).ux)
    (hy0 : 0 ≤ y) (hy1 : y ≤ (boxGeom xmax ymax zmax nx ny nz).uy)
    (hz0 : 0 ≤ z) (hz1 : z ≤ (boxGeom xmax ymax zmax nx ny nz).uz) :
    let g := boxGeom xmax ymax zmax nx ny nz
    ∃ s, vm.look (cartCell trunc g.dx g.dy g.dz x y z) = some s := by
  intro g
  obtain ⟨dx, dy, dz, ux, uy, uz, -, -, -⟩ := box_upper_inside_grid xmax ymax zmax nx ny nz hx hy hz hnx hny hnz
  have ax := axis_index_of_le_upper trunc ht x g.dx g.ux nx dx ux hx0 hx1
  have ay := axis_index_of_le_upper trunc ht y g.dy g.uy ny dy uy hy0 hy1
  have az := axis_index_of_le_upper trunc ht z g.dz g.uz nz dz uz hz0 hz1
  unfold VMap.look cartCell
  rw [if_pos (by simp only [h0, h1, h2]; exact ⟨ax.1, ax.2, ay.1, ay.2, az.1, az.2⟩)]
  exact ⟨_, rfl⟩

/-- without the shrink the far corner is outside the map: `trunc (xmax / dx) = nx` -/
theorem unshrunk_box_corner_out_of_map (trunc : α → Int) (ht : TruncSpec trunc) (xmax : α) (nx : Nat) (hx : 0 < xmax)
    (hnx : 0 < nx) : trunc (xmax / (xmax / (nx : α))) = (nx : Int) := by
  have cx : (0 : α) < nx := by exact_mod_cast hnx
  have e : xmax / (xmax / (nx : α)) = ((nx : Int) : α) := by
    push_cast; field_simp
  rw [e, (ht _).1 (by push_cast; exact cx.le), Int.floor_intCast]

set_option linter.unusedSectionVars false in
/-- the two coaxial cylinders and the caps of `RayTransferCylinder` lie strictly inside the `(r, z)` extent of the grid -/
theorem cyl_shrunk_inside_grid (radiusOuter height radiusInner period : α) (nr nz npolar : Nat)
    (hr : radiusInner < radiusOuter) (hh : 0 < height) (hnr : 0 < nr) (hnz : 0 < nz) :
    let g := cylGeom radiusOuter height nr nz radiusInner npolar period
    0 < g.dr ∧ 0 < g.dz ∧ radiusInner < g.rInner ∧ g.rInner ≤ g.rOuter ∧ g.rOuter < radiusInner + nr * g.dr ∧
      0 < g.height ∧ g.height < nz * g.dz := by
  obtain ⟨dr, ri, rio, ro⟩ := shrunk_both shrink_margin hr hnr
  obtain ⟨dz, uz, pz⟩ := shrunk_upper shrink_margin hh hnz
  exact ⟨dr, dz, ri, rio, ro, pz, uz⟩

/-- **every point between the bounding cylinders samples `(ir, iz)` inside the voxel map**: `rInner ≤ r ≤ rOuter`,
`0 ≤ z ≤ height'` ⇒ `0 ≤ ir < nr ∧ 0 ≤ iz < nz` with the index formulas of `cylCell` (`rmin = radius_inner`) -/
theorem cyl_points_rz_in_map (trunc : α → Int) (ht : TruncSpec trunc) (radiusOuter height radiusInner period : α)
    (nr nz npolar : Nat) (hr : radiusInner < radiusOuter) (hh : 0 < height) (hnr : 0 < nr) (hnz : 0 < nz) (r z : α)
    (hr0 : (cylGeom radiusOuter height nr nz radiusInner npolar period).rInner ≤ r)
    (hr1 : r ≤ (cylGeom radiusOuter height nr nz radiusInner npolar period).rOuter)
    (hz0 : 0 ≤ z) (hz1 : z ≤ (cylGeom radiusOuter height nr nz radiusInner npolar period).height) :
    let g := cylGeom radiusOuter height nr nz radiusInner npolar period
    (0 ≤ trunc ((r - radiusInner) / g.dr) ∧ trunc ((r - radiusInner) / g.dr) < (nr : Int)) ∧
      (0 ≤ trunc (z / g.dz) ∧ trunc (z / g.dz) < (nz : Int)) := by
  intro g
  obtain ⟨dr, dz, ri, -, ro, -, hz⟩ :=
    cyl_shrunk_inside_grid radiusOuter height radiusInner period nr nz npolar hr hh hnr hnz
  exact ⟨cyl_r_index_in_range trunc ht r radiusInner g.dr nr dr (le_trans ri.le hr0) (lt_of_le_of_lt hr1 ro),
    axis_index_of_le_upper trunc ht z g.dz g.height nz dz hz hz0 hz1⟩

end geom

section pipe
variable {α : Type} [Field α]

/-- fold of `update` over the tasks: the sample count is never touched; row `i` holds `packed / samples` of the LAST task
for pixel `i`, or what it held before if there is none -/
theorem pipe1D_fold_get (rs : List (Nat × List α)) : ∀ (q : Pipe1D α) (i : Nat), i < q.matrix.length →
    (rs.foldl (fun q r => q.update r.1 r.2) q).samples = q.samples ∧
    (rs.foldl (fun q r => q.update r.1 r.2) q).matrix.length = q.matrix.length ∧
    (rs.foldl (fun q r => q.update r.1 r.2) q).matrix[i]? =
      match rs.reverse.find? (fun r => r.1 == i) with
      | some r => some (r.2.map (· / (q.samples : α)))
      | none => q.matrix[i]? := by
  induction rs using List.reverseRecOn with
  | nil => exact fun q i _ => ⟨rfl, rfl, rfl⟩
  | append_singleton rs r ih =>
    intro q i hi
    obtain ⟨h1, h2, h3⟩ := ih q i hi
    simp only [List.foldl_append, List.foldl_cons, List.foldl_nil, List.reverse_append, List.reverse_cons,
      List.reverse_nil, List.nil_append, List.singleton_append, List.find?_cons]
    generalize (rs.foldl (fun q r => q.update r.1 r.2) q) = q' at h1 h2 h3 ⊢
    refine ⟨h1, List.length_set.trans h2, ?_⟩
    simp only [Pipe1D.update, List.getElem?_set, h2, h1]
    by_cases hri : r.1 = i
    · subst hri
      simp only [beq_self_eq_true, hi, if_true]
    · have : (r.1 == i) = false := by simpa using hri
      simp only [hri, if_false, this, h3]

/-- **what an observe leaves in the 1D (2D: flattened pixel index) pipeline**: for every pixel inside the frame, the row is
the packed result of the pixel's last task divided by `pixel_samples` of THIS observe — zeros if the pixel got no task -/
theorem pipe1D_observe_is_mean (p : Pipe1D α) (pixels ps bins : Nat) (rs : List (Nat × List α)) (i : Nat)
    (hi : i < pixels) :
    (p.observe pixels ps bins rs).matrix[i]? =
      match rs.reverse.find? (fun r => r.1 == i) with
      | some r => some (r.2.map (· / (ps : α)))
      | none => some (List.replicate bins 0) := by
  obtain ⟨-, -, h3⟩ := pipe1D_fold_get rs (p.initialise pixels ps bins) i
    (by rwa [Pipe1D.initialise, List.length_replicate])
  unfold Pipe1D.observe
  rw [h3]
  cases rs.reverse.find? (fun r => r.1 == i) with
  | some r => rfl
  | none => exact List.getElem?_replicate.trans (if_pos hi)

/-- the pixel processor starts from zeros … -/
theorem pixelProcess_nil (power : Bool) (bins : Nat) :
    pixelProcess power bins ([] : List (List α × α)) = List.replicate bins 0 := rfl

/-- … and every `add_sample` adds `spectrum.samples` (times the sensitivity for `kind = 'power'`) bin by bin -/
theorem pixelProcess_snoc (power : Bool) (bins : Nat) (ss : List (List α × α)) (s : List α × α) :
    pixelProcess power bins (ss ++ [s]) =
      List.zipWith (· + ·) (pixelProcess power bins ss) (if power then s.1.map (· * s.2) else s.1) := by
  simp [pixelProcess, List.foldl_append]

end pipe

/-! ## non-vacuity -/

/-- a 2×1×1 box of size 2×1×1: the shrunk corner 2 − 1e-5 has index 1 (inside), the unshrunk corner 2 has index 2 (outside) -/
example :
    let trunc : ℚ → Int := fun x => if 0 ≤ x then ⌊x⌋ else ⌈x⌉
    let g : BoxGeom ℚ := boxGeom 2 1 1 2 1 1
    (cartCell trunc g.dx g.dy g.dz g.ux g.uy g.uz).1 = 1 ∧ (cartCell trunc g.dx g.dy g.dz 2 0 0).1 = 2 := by
  decide +kernel

/-- cylinder 1 ≤ r ≤ 3, two radial cells: the shrunk outer radius has radial index 1, the unshrunk one index 2 -/
example :
    let trunc : ℚ → Int := fun x => if 0 ≤ x then ⌊x⌋ else ⌈x⌉
    let g : CylGeom ℚ := cylGeom 3 1 2 1 1 1 360
    trunc ((g.rOuter - 1) / g.dr) = 1 ∧ trunc ((3 - 1) / g.dr) = 2 ∧ trunc ((g.rInner - 1) / g.dr) = 0 := by
  decide +kernel

/-- 3 pixels, 4 samples each, pixel 1 rendered twice (last task wins), pixel 2 not rendered -/
example : ((Pipe1D.new : Pipe1D ℚ).observe 3 4 1 [(1, [8]), (0, [2]), (1, [4])]).matrix = [[1 / 2], [1], [0]] := by
  decide +kernel

example : pixelProcess true 2 [([1, 2], (3 : ℚ)), ([1, 0], 1)] = [4, 6] := by decide +kernel

end Cherab.Props.C10
