import Cherab.Model.Rates
import Cherab.Model.Conversion
import Cherab.Gen.Conversion
import Mathlib.Algebra.Order.Field.Basic
import Mathlib.Analysis.Real.Sqrt
import Mathlib.Tactic.NormNum.OfScientific

/-!
# C07 — cherab/core/utility/conversion.py ("after the documented unit conversion")

* the table `harness/translators/conversion.py` reads from the source on every run is the modelled one (`decide`);
* lifting: interpreting the *generated* `return` expressions with Python's method resolution gives the hand-written
  functions of `Model/Conversion.lean`, for every argument and every `sqrt` / constants environment;
* `to` and `inv` of every class are mutually inverse where they can be (non-zero factor and wavelength; non-negative
  energies and velocities for `EvAmuToMS`, whose `inv ∘ to` is the identity but whose `to ∘ inv` is `|·|`).
-/
namespace Cherab.Props.C07Conv
set_option linter.unusedSectionVars false
open Cherab.Conv Cherab.Gen.Conversion

variable {α : Type} [Field α] [LinearOrder α] [IsStrictOrderedRing α]

/-- conversion.py as read by the translator on this run is exactly the table the hand-written functions transcribe,
and every class body consists only of statements the translator reads. -/
theorem conversion_table_as_modelled : conversions = modelled ∧ notUnderstood = [] := ⟨rfl, rfl⟩

/-- the six factor classes and the two special ones: every class of the file is covered by the lifting theorems below -/
theorem conversion_classes_complete :
    conversions.map (·.name) = ["EvAmuToMS", "PhotonToJ", "BaseFactorConversion", "AmuToKg", "EvToJ", "Cm3ToM3",
      "PerCm3ToPerM3", "AngstromToNm"] := rfl

/-- **lifting, methods**: for all arguments, the generated `to` / `inv` of every class (resolved along the base chain as
Python does) is the hand-written function. -/
theorem conversion_methods_lift (sqrt : α → α) (consts : String → α) (cf x wl : α) :
    evalMethod conversions "EvAmuToMS" false sqrt consts cf x wl = some (evAmuTo sqrt cf x)
    ∧ evalMethod conversions "EvAmuToMS" true sqrt consts cf x wl = some (evAmuInv cf x)
    ∧ evalMethod conversions "PhotonToJ" false sqrt consts cf x wl = some (photonTo cf x wl)
    ∧ evalMethod conversions "PhotonToJ" true sqrt consts cf x wl = some (photonInv cf x wl)
    ∧ ∀ cls ∈ ["BaseFactorConversion", "AmuToKg", "EvToJ", "Cm3ToM3", "PerCm3ToPerM3", "AngstromToNm"],
        evalMethod conversions cls false sqrt consts cf x wl = some (factorTo cf x)
        ∧ evalMethod conversions cls true sqrt consts cf x wl = some (factorInv cf x) := by
  refine ⟨rfl, rfl, rfl, rfl, ?_⟩
  intro cls h
  simp only [List.mem_cons, List.not_mem_nil, or_false] at h
  rcases h with h | h | h | h | h | h <;> subst h <;> exact ⟨rfl, rfl⟩

/-- **lifting, factors**: the generated `conversion_factor` of every class, in the constants environment `consts`. -/
theorem conversion_factors_lift (consts : String → α) :
    evalFactor conversions "EvAmuToMS" consts = some (evAmuFactor (consts "elementary_charge") (consts "atomic_mass"))
    ∧ evalFactor conversions "PhotonToJ" consts = some (hc9 (consts "Planck") (consts "speed_of_light"))
    ∧ evalFactor conversions "AmuToKg" consts = some (consts "atomic_mass")
    ∧ evalFactor conversions "EvToJ" consts = some (consts "elementary_charge")
    ∧ evalFactor conversions "Cm3ToM3" consts = some (litVal 1 (-6))
    ∧ evalFactor conversions "PerCm3ToPerM3" consts = some (litVal 1 6)
    ∧ evalFactor conversions "AngstromToNm" consts = some (litVal 1 (-1))
    ∧ evalFactor conversions "BaseFactorConversion" consts = none :=
  ⟨rfl, rfl, rfl, rfl, rfl, rfl, rfl, rfl⟩

/-- the photon conversion used by the rate classes (`Rates.photonToJ`) is `PhotonToJ.to` of this file -/
theorem photonTo_is_rates_photonToJ (cf x wl : α) : photonTo cf x wl = Cherab.Rates.photonToJ cf x wl := rfl

/-- `BaseFactorConversion`: `inv (to x) = x` and `to (inv x) = x` for every non-zero factor. -/
theorem factor_roundtrip (cf x : α) (hcf : cf ≠ 0) :
    factorInv cf (factorTo cf x) = x ∧ factorTo cf (factorInv cf x) = x :=
  ⟨mul_div_cancel_right₀ x hcf, div_mul_cancel₀ x hcf⟩

example : factorInv (2 : ℚ) (factorTo 2 3) = 3 ∧ factorTo (2 : ℚ) (factorInv 2 3) = 3 := factor_roundtrip 2 3 (by norm_num)

/-- a zero factor has no inverse: `inv (to x)` is 0 (field convention; Python raises ZeroDivisionError / gives nan) -/
theorem factor_roundtrip_needs_nonzero (x : α) : factorInv 0 (factorTo 0 x) = 0 :=
  div_zero _

/-- `PhotonToJ`: the two directions are mutually inverse for every non-zero factor and wavelength. -/
theorem photon_roundtrip (cf x wl : α) (hcf : cf ≠ 0) (hwl : wl ≠ 0) :
    photonInv cf (photonTo cf x wl) wl = x ∧ photonTo cf (photonInv cf x wl) wl = x := by
  simp only [photonInv, photonTo]
  exact ⟨by rw [mul_right_comm, mul_div_cancel_right₀ _ hcf, div_mul_cancel₀ _ hwl],
    by rw [div_right_comm, mul_div_cancel_right₀ _ hwl, div_mul_cancel₀ _ hcf]⟩

example : photonInv (2 : ℚ) (photonTo 2 3 5) 5 = 3 ∧ photonTo (2 : ℚ) (photonInv 2 3 5) 5 = 3 :=
  photon_roundtrip 2 3 5 (by norm_num) (by norm_num)

/-- `PhotonToJ.to` is the stored photon coefficient times `hc/λ` (the property's "photon coefficients times hc/lambda
of the requested species"). -/
theorem photonTo_is_times_hc_over_lambda (cf x wl : α) : photonTo cf x wl = x * (cf / wl) :=
  (div_mul_eq_mul_div x wl cf).trans (mul_div_assoc x cf wl)

/-- `Cm3ToM3` and `PerCm3ToPerM3` are inverse to one another: the literals `1e-6` and `1e6` multiply to one. -/
theorem cm3_perCm3_inverse (x : α) :
    factorTo (litVal 1 6) (factorTo (litVal 1 (-6)) x) = x
    ∧ factorInv (litVal 1 (-6)) x = factorTo (litVal 1 6) x := by
  have h : (litVal 1 (-6) : α) * litVal 1 6 = 1 := by
    have e : Int.toNat 6 = 6 := rfl
    simp only [litVal, e]; norm_num
  exact ⟨by rw [factorTo, factorTo, mul_assoc, h, mul_one],
    div_eq_of_eq_mul (left_ne_zero_of_mul_eq_one h) (by rw [factorTo, mul_assoc, mul_comm (litVal 1 6), h, mul_one])⟩

/-- the contract of the square root used by `EvAmuToMS.to` -/
def SqrtSpec (sqrt : α → α) : Prop := ∀ y, 0 ≤ y → 0 ≤ sqrt y ∧ sqrt y * sqrt y = y

theorem sqrtSpec_real : SqrtSpec Real.sqrt := fun y hy => ⟨Real.sqrt_nonneg y, Real.mul_self_sqrt hy⟩

example : SqrtSpec Real.sqrt := sqrtSpec_real

theorem SqrtSpec.sqrt_mul_self {sqrt : α → α} (S : SqrtSpec sqrt) (v : α) : sqrt (v * v) = |v| := by
  obtain ⟨h0, h1⟩ := S (v * v) (mul_self_nonneg v)
  exact (abs_of_nonneg h0).symm.trans (abs_eq_iff_mul_self_eq.mpr h1)

/-- `EvAmuToMS`: energy → velocity → energy is the identity on non-negative energies. -/
theorem evAmu_inv_to (sqrt : α → α) (S : SqrtSpec sqrt) (cf x : α) (hcf : 0 < cf) (hx : 0 ≤ x) :
    evAmuInv cf (evAmuTo sqrt cf x) = x := by
  rw [evAmuInv, evAmuTo, (S (x * cf) (mul_nonneg hx hcf.le)).2, mul_div_cancel_right₀ _ hcf.ne']

/-- `EvAmuToMS`: velocity → energy → velocity is the absolute value: the identity on `v ≥ 0`, `-v` on `v < 0`. -/
theorem evAmu_to_inv (sqrt : α → α) (S : SqrtSpec sqrt) (cf v : α) (hcf : 0 < cf) :
    evAmuTo sqrt cf (evAmuInv cf v) = |v| := by
  rw [evAmuTo, evAmuInv, div_mul_cancel₀ _ hcf.ne', S.sqrt_mul_self]

example : evAmuInv (2 : ℝ) (evAmuTo Real.sqrt 2 8) = 8 ∧ evAmuTo Real.sqrt (2 : ℝ) (evAmuInv 2 (-4)) = |(-4 : ℝ)| :=
  ⟨evAmu_inv_to Real.sqrt sqrtSpec_real 2 8 (by norm_num) (by norm_num),
   evAmu_to_inv Real.sqrt sqrtSpec_real 2 (-4) (by norm_num)⟩

/-- … so `to ∘ inv` is NOT the identity on negative velocities (the sign is lost), for any conforming `sqrt`. -/
theorem evAmu_to_inv_loses_sign (sqrt : α → α) (S : SqrtSpec sqrt) (cf v : α) (hcf : 0 < cf) (hv : v < 0) :
    evAmuTo sqrt cf (evAmuInv cf v) ≠ v := by
  rw [evAmu_to_inv sqrt S cf v hcf, abs_of_neg hv]
  exact (hv.trans (neg_pos.mpr hv)).ne'

/-- `EvAmuToMS.to` is strictly increasing on non-negative energies (derived from the contract of `sqrt` alone). -/
theorem evAmuTo_strictMono (sqrt : α → α) (S : SqrtSpec sqrt) (cf x y : α) (hcf : 0 < cf) (hx : 0 ≤ x) (hxy : x < y) :
    evAmuTo sqrt cf x < evAmuTo sqrt cf y := by
  simp only [evAmuTo]
  obtain ⟨-, a1⟩ := S (x * cf) (mul_nonneg hx hcf.le)
  obtain ⟨b0, b1⟩ := S (y * cf) (mul_nonneg (hx.trans hxy.le) hcf.le)
  exact lt_of_mul_self_lt_mul_self₀ b0 (by rw [a1, b1]; exact mul_lt_mul_of_pos_right hxy hcf)

example : evAmuTo Real.sqrt (2 : ℝ) 2 < evAmuTo Real.sqrt 2 8 :=
  evAmuTo_strictMono Real.sqrt sqrtSpec_real 2 2 8
    (by norm_num) (by norm_num) (by norm_num)

end Cherab.Props.C07Conv
