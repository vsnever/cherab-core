import Cherab.Model.BeamCache
import Cherab.Gen.BeamCacheOrder

/-!
# C05 — the data cache of `BeamCXLine` / `BeamEmissionLine` as a state machine

`Model/BeamCache.lean` transcribes the protocol (guard test in `emission`, the writes of `_populate_cache` in source order,
the resets of `_change`), including "`_populate_cache` may raise after `k` writes".

* the write order before notes/fixes/C05-r6-1.diff (`cxHead`, `besHead`: guard written first / created as `[]`) is correct
  without provider failures: for **every history** of configuration changes and emissions, every emission is the one of a
  model constructed fresh in the current configuration (`*Head_all_histories`);
* with failures it is not: after a failed first attempt the retry dereferences a half-filled cache
  (`cxHead_failed_populate_broken`, `besHead_failed_populate_broken`: the witnesses replayed on /repo before the fix, both
  segmentation faults), or silently renders with the line shape of the *previous* line (`cxHead_failed_populate_stale_lineshape`);
* with the guard written last (`cxFixed`, `besFixed`) a failed populate leaves the guard `None`
  (`guard_last_failed_populate_keeps_guard_empty`, any design), and for every history with failures at arbitrary points
  every emission either raises or is the fresh one (`cxFixed_all_histories`, `besFixed_all_histories`); that it raises
  only when the provider failed in that very call is said of one step (`StepOk` in `cxFixed_step`, `besFixed_step`);
* **tie to the source**: `Gen/BeamCacheOrder.lean` is regenerated from the two `.pyx` files on every run
  (harness/translators/beam_cache.py); `cxSource_eq_fixed` / `besSource_eq_fixed` (`decide`) say that the protocol the
  source has at build time is the one with the guard written last, and `*Source_all_histories`, `*Source_failed_then_retry`
  lift the theorems to it.  A source with the statement order of `cxHead` / `besHead` regenerates the file and these
  proofs stop building.
-/
namespace Cherab.Props.C05Cache
open Cherab.BeamCache

/-- either the next `emission` repopulates, or everything it reads was derived from the current configuration -/
def Inv (d : Design) (m : Model) : Prop :=
  m.cache d.guard = .empty ∨ ∀ f ∈ d.reads, m.cache f = .full m.cfg

/-- what one step may produce: nothing (a change), the fresh emission of the current configuration, or — only when the
provider failed in this very call — an exception -/
def StepOk (d : Design) (m : Model) (op : Op) : Prop :=
  Inv d (step d m op).1 ∧
  ∀ o, (step d m op).2 = some o → o = (m.cfg, freshObs d m.cfg) ∨ (o = (m.cfg, .raised) ∧ ∃ k, op = .emit (some k))

theorem inv_fresh (d : Design) (c : Nat) : Inv d (fresh c) := Or.inl rfl

/-- lifting a one-step lemma to all histories; an emission can have raised only if the history contains a failing call -/
theorem run_of_step (d : Design) (valid : Op → Prop)
    (hstep : ∀ m op, Inv d m → valid op → StepOk d m op) :
    ∀ (ops : List Op) (m : Model), Inv d m → (∀ op ∈ ops, valid op) →
      Inv d (run d m ops).1 ∧
      ∀ o ∈ (run d m ops).2, o.2 = freshObs d o.1 ∨ (o.2 = .raised ∧ ∃ k, .emit (some k) ∈ ops) := by
  intro ops
  induction ops with
  | nil => exact fun m h _ => ⟨h, fun o ho => nomatch ho⟩
  | cons op ops ih =>
    intro m h hv
    obtain ⟨hinv, hobs⟩ := hstep m op h (hv op List.mem_cons_self)
    obtain ⟨hI, hrest⟩ := ih (step d m op).1 hinv fun o ho => hv o (List.mem_cons_of_mem _ ho)
    refine ⟨hI, fun o ho => ?_⟩
    rcases List.mem_append.mp ho with ho | ho
    · split at ho
      next o' hso =>
        rw [List.mem_singleton.mp ho]
        rcases hobs o' hso with rfl | ⟨rfl, k, rfl⟩
        · exact Or.inl rfl
        · exact Or.inr ⟨rfl, k, List.mem_cons_self⟩
      next => nomatch ho
    · exact (hrest o ho).imp_right fun ⟨h1, k, hk⟩ => ⟨h1, k, List.mem_cons_of_mem _ hk⟩

/-- without a failing provider no emission raises: every one is the fresh emission -/
theorem run_no_fail_not_raised (d : Design)
    (hstep : ∀ m op, Inv d m → (∀ k, op ≠ .emit (some k)) → StepOk d m op) :
    ∀ (ops : List Op) (m : Model), Inv d m → (∀ op ∈ ops, ∀ k, op ≠ .emit (some k)) →
      ∀ o ∈ (run d m ops).2, o.2 = freshObs d o.1 := fun ops m hI hv o ho =>
  ((run_of_step d _ hstep ops m hI hv).2 o ho).resolve_right fun ⟨_, k, hk⟩ => hv _ hk k rfl

theorem runStmts_cfg (m : Model) (l : List Stmt) : (runStmts m l).cfg = m.cfg :=
  List.foldlRecOn l exec (motive := fun m' => m'.cfg = m.cfg) rfl fun m' hm s _ => by cases s <;> exact hm

theorem runStmts_other (f : Field) (l : List Stmt) (m : Model)
    (h : ∀ s ∈ l, s ≠ .assign f ∧ s ≠ .init f) : (runStmts m l).cache f = m.cache f := by
  refine List.foldlRecOn l exec (motive := fun m' => m'.cache f = m.cache f) rfl fun m' hm s hs => ?_
  obtain ⟨h1, h2⟩ := h s hs
  cases s with
  | assign g => exact (if_neg fun e : f = g => h1 (e ▸ rfl)).trans hm
  | init g => exact (if_neg fun e : f = g => h2 (e ▸ rfl)).trans hm

/-- what the step lemma uses of a design: `_change` resets the guard, and a complete `_populate_cache` leaves every
attribute that `emission` reads derived from the current configuration (stated on the list of values read, as in
`freshObs`, so that it holds of a concrete design by evaluation) -/
structure Sound (d : Design) : Prop where
  guard_reset : d.guard ∈ d.resets
  populated : ∀ m : Model, d.reads.map (runStmts m d.order).cache = d.reads.map fun _ => .full m.cfg

theorem read_of_full (d : Design) (m : Model) (c : Nat) (h : ∀ f ∈ d.reads, m.cache f = .full c) :
    BeamCache.read d m = freshObs d c := by
  have hany : d.reads.any (fun f => m.cache f == .empty) = false :=
    List.any_eq_false.mpr fun f hf => by rw [h f hf]; exact Bool.false_ne_true
  rw [BeamCache.read, hany, freshObs, List.map_congr_left h]; rfl

theorem emission_cached (d : Design) (fail : Option Nat) (m : Model) (hg : m.cache d.guard ≠ .empty) :
    emission d fail m = (m, BeamCache.read d m) := if_neg hg

theorem emission_fail (d : Design) (k : Nat) (m : Model) (hg : m.cache d.guard = .empty) :
    emission d (some k) m = ((populate d (some k) m).1, .raised) := by
  rw [emission, if_pos hg]; rfl

theorem emission_populate (d : Design) (hd : Sound d) (m : Model) (hg : m.cache d.guard = .empty) :
    emission d none m = (runStmts m d.order, freshObs d m.cfg) := by
  rw [emission, if_pos hg, ← read_of_full d (runStmts m d.order) m.cfg (List.map_inj_left.mp (hd.populated m))]; rfl

theorem step_ok (d : Design) (hd : Sound d) (m : Model) (op : Op) (h : Inv d m)
    (hf : ∀ k, op = .emit (some k) → m.cache d.guard = .empty → (populate d (some k) m).1.cache d.guard = .empty) :
    StepOk d m op := by
  cases op with
  | change c => exact ⟨Or.inl (if_pos hd.guard_reset), fun o ho => nomatch ho⟩
  | emit fail =>
    show Inv d (emission d fail m).1 ∧ ∀ o, some (m.cfg, (emission d fail m).2) = some o → _
    by_cases hg : m.cache d.guard = .empty
    · cases fail with
      | none =>
        rw [emission_populate d hd m hg]
        refine ⟨Or.inr ?_, fun o ho => Or.inl (Option.some.inj ho).symm⟩
        show ∀ f ∈ d.reads, (runStmts m d.order).cache f = .full (runStmts m d.order).cfg
        rw [runStmts_cfg]; exact List.map_inj_left.mp (hd.populated m)
      | some k =>
        rw [emission_fail d k m hg]
        exact ⟨Or.inl (hf k rfl hg), fun o ho => Or.inr ⟨(Option.some.inj ho).symm, k, rfl⟩⟩
    · rw [emission_cached d fail m hg, read_of_full d m m.cfg (h.resolve_left hg)]
      exact ⟨h, fun o ho => Or.inl (Option.some.inj ho).symm⟩

theorem all_histories_no_fail (d : Design) (hd : Sound d) (c₀ : Nat) (ops : List Op)
    (hv : ∀ op ∈ ops, ∀ k, op ≠ .emit (some k)) :
    ∀ o ∈ (run d (fresh c₀) ops).2, o.2 = freshObs d o.1 :=
  run_no_fail_not_raised d (fun m op h hv => step_ok d hd m op h fun k hk => absurd hk (hv k)) ops (fresh c₀)
    (inv_fresh _ _) hv

theorem cxHead_sound : Sound cxHead := ⟨by decide, fun _ => by rfl⟩

theorem besHead_sound : Sound besHead := ⟨by decide, fun _ => by rfl⟩

/-- **`BeamCXLine`, guard written first, working provider**: for every history of configuration changes (`_change`) and
emissions, every emission equals the first emission of a model constructed in the configuration current at that moment -/
theorem cxHead_all_histories (c₀ : Nat) (ops : List Op) (hv : ∀ op ∈ ops, ∀ k, op ≠ .emit (some k)) :
    ∀ o ∈ (run cxHead (fresh c₀) ops).2, o.2 = freshObs cxHead o.1 :=
  all_histories_no_fail cxHead cxHead_sound c₀ ops hv

/-- **`BeamEmissionLine`, guard created as `[]` before the loop, working provider**: the same statement -/
theorem besHead_all_histories (c₀ : Nat) (ops : List Op) (hv : ∀ op ∈ ops, ∀ k, op ≠ .emit (some k)) :
    ∀ o ∈ (run besHead (fresh c₀) ops).2, o.2 = freshObs besHead o.1 :=
  all_histories_no_fail besHead besHead_sound c₀ ops hv

example : (run cxHead (fresh 0) [.emit none, .change 1, .emit none, .emit none, .change 2, .change 3, .emit none]).2
    = [(0, freshObs cxHead 0), (1, freshObs cxHead 1), (1, freshObs cxHead 1), (3, freshObs cxHead 3)] := by decide

/-- `beam_cx_pec` raises on the first attempt (after `_target_species` and `_wavelength` were written): the retry does not
repopulate and dereferences `_ground_beam_rate = None` — on /repo before the fix a segmentation fault -/
theorem cxHead_failed_populate_broken :
    (run cxHead (fresh 0) [.emit (some 2), .emit none]).2 = [(0, .raised), (0, .broken)] ∧
    (run cxHead (fresh 0) [.emit (some 2), .emit none]).1.cache .guard = .full 0 ∧
    ¬ ∀ o ∈ (run cxHead (fresh 0) [.emit (some 2), .emit none]).2, o.2 = freshObs cxHead o.1 ∨ o.2 = .raised := by
  decide

/-- the line-shape constructor raises after a line change: the retry renders with the line shape built for the *previous*
line (`_change` does not reset `_lineshape`), silently -/
theorem cxHead_failed_populate_stale_lineshape :
    (run cxHead (fresh 0) [.emit none, .change 1, .emit (some 5), .emit none]).2
      = [(0, freshObs cxHead 0), (1, .raised), (1, .ok [.full 1, .full 1, .full 1, .full 0])] ∧
    Obs.ok [.full 1, .full 1, .full 1, .full 0] ≠ freshObs cxHead 1 := by
  decide

/-- `beam_emission_pec` raises for the second species (after `self._rates_list = []`): the retry does not repopulate and
dereferences `_lineshape = None` with a partial rate list — on /repo before the fix a segmentation fault -/
theorem besHead_failed_populate_broken :
    (run besHead (fresh 0) [.emit (some 2), .emit none]).2 = [(0, .raised), (0, .broken)] ∧
    (run besHead (fresh 0) [.emit (some 2), .emit none]).1.cache .data = .partly 0 := by
  decide

/-- a failure before the guard is written (`wavelength` of `BeamEmissionLine`, no write yet) is harmless even in `besHead` -/
theorem besHead_failed_before_guard_ok :
    (run besHead (fresh 0) [.emit (some 0), .emit none]).2 = [(0, .raised), (0, freshObs besHead 0)] := by
  decide

def GuardLast (d : Design) : Prop :=
  ∃ pre, d.order = pre ++ [.assign d.guard] ∧ ∀ s ∈ pre, s ≠ .assign d.guard ∧ s ≠ .init d.guard

/-- **any design whose guard is written by the last statement only**: a populate that fails at any point leaves the
guard as it was — `None` — so the next `emission` starts again -/
theorem guard_last_failed_populate_keeps_guard_empty (d : Design) (hgl : GuardLast d)
    (m : Model) (hg : m.cache d.guard = .empty) (k : Nat) (hk : k < d.order.length) :
    (populate d (some k) m).1.cache d.guard = .empty ∧ (populate d (some k) m).2 = false := by
  refine ⟨?_, rfl⟩
  obtain ⟨pre, hord, hpre⟩ := hgl
  -- the first `k` statements are among those before the last
  have hk' : k ≤ pre.length := by rw [hord, List.length_append, List.length_singleton] at hk; omega
  have htake : d.order.take k = pre.take k := by rw [hord, List.take_append_of_le_length hk']
  show (runStmts m (d.order.take k)).cache d.guard = .empty
  rw [htake, runStmts_other d.guard (pre.take k) m fun s hs => hpre s (List.mem_of_mem_take hs), hg]

theorem step_ok_guard_last (d : Design) (hd : Sound d) (hgl : GuardLast d)
    (m : Model) (op : Op) (h : Inv d m) (hv : op.valid d) : StepOk d m op :=
  step_ok d hd m op h fun k hk hg =>
    (guard_last_failed_populate_keeps_guard_empty d hgl m hg k (by subst hk; exact hv)).1

theorem guard_last_failed_then_retry (d : Design) (hd : Sound d) (hgl : GuardLast d)
    (c k : Nat) (hk : k < d.order.length) :
    (populate d (some k) (fresh c)).1.cache d.guard = .empty ∧
    (run d (fresh c) [.emit (some k), .emit none]).2 = [(c, .raised), (c, freshObs d c)] := by
  have hg := (guard_last_failed_populate_keeps_guard_empty d hgl (fresh c) rfl k hk).1
  have hcfg : (populate d (some k) (fresh c)).1.cfg = c := runStmts_cfg _ _
  refine ⟨hg, ?_⟩
  -- the first emission fails in its populate, the second one finds the guard empty and populates
  simp only [run, step, emission_fail d k (fresh c) rfl, emission_populate d hd _ hg, hcfg, List.append_nil,
    List.cons_append, List.nil_append]
  rfl

theorem cxFixed_sound : Sound cxFixed := ⟨by decide, fun _ => by rfl⟩

theorem besFixed_sound : Sound besFixed := ⟨by decide, fun _ => by rfl⟩

theorem cxFixed_guard_last : GuardLast cxFixed :=
  ⟨[.assign .wavelength, .init .data, .assign .ground, .assign .data, .assign .lineshape], rfl, by decide⟩

theorem besFixed_guard_last : GuardLast besFixed :=
  ⟨[.assign .wavelength, .assign .lineshape], rfl, by decide⟩

example : (populate cxFixed (some 5) (fresh 7)).1.cache .guard = .empty :=
  (guard_last_failed_populate_keeps_guard_empty cxFixed cxFixed_guard_last (fresh 7) rfl 5 (by decide)).1

/-- in `cxHead` / `besHead` a failed populate can leave the guard set (failure after the first / the second write) -/
theorem cxHead_failed_populate_sets_guard : (populate cxHead (some 1) (fresh 0)).1.cache cxHead.guard ≠ .empty := by decide
theorem besHead_failed_populate_sets_guard : (populate besHead (some 2) (fresh 0)).1.cache besHead.guard ≠ .empty := by decide

theorem cxFixed_step (m : Model) (op : Op) (h : Inv cxFixed m) (hv : op.valid cxFixed) : StepOk cxFixed m op :=
  step_ok_guard_last cxFixed cxFixed_sound cxFixed_guard_last m op h hv

theorem besFixed_step (m : Model) (op : Op) (h : Inv besFixed m) (hv : op.valid besFixed) : StepOk besFixed m op :=
  step_ok_guard_last besFixed besFixed_sound besFixed_guard_last m op h hv

/-- **`BeamCXLine` with the fix**: for every history of configuration changes and emissions in which the provider may
fail at any point of any populate, every emission either raises or equals the fresh emission of the current configuration;
the cache is never observed half-filled -/
theorem cxFixed_all_histories (c₀ : Nat) (ops : List Op) (hv : ∀ op ∈ ops, op.valid cxFixed) :
    ∀ o ∈ (run cxFixed (fresh c₀) ops).2, o.2 = freshObs cxFixed o.1 ∨ o.2 = .raised := fun o ho =>
  ((run_of_step cxFixed (Op.valid cxFixed) cxFixed_step ops (fresh c₀) (inv_fresh _ _) hv).2 o ho).imp_right And.left

/-- **`BeamEmissionLine` with the fix**: the same statement -/
theorem besFixed_all_histories (c₀ : Nat) (ops : List Op) (hv : ∀ op ∈ ops, op.valid besFixed) :
    ∀ o ∈ (run besFixed (fresh c₀) ops).2, o.2 = freshObs besFixed o.1 ∨ o.2 = .raised := fun o ho =>
  ((run_of_step besFixed (Op.valid besFixed) besFixed_step ops (fresh c₀) (inv_fresh _ _) hv).2 o ho).imp_right And.left

/-- a first emission whose populate fails at any point leaves the guard `None`, and the retry is the fresh emission -/
theorem cxFixed_failed_then_retry (c k : Nat) (hk : k < cxFixed.order.length) :
    (populate cxFixed (some k) (fresh c)).1.cache cxFixed.guard = .empty ∧
    (run cxFixed (fresh c) [.emit (some k), .emit none]).2 = [(c, .raised), (c, freshObs cxFixed c)] :=
  guard_last_failed_then_retry cxFixed cxFixed_sound cxFixed_guard_last c k hk

theorem besFixed_failed_then_retry (c k : Nat) (hk : k < besFixed.order.length) :
    (populate besFixed (some k) (fresh c)).1.cache besFixed.guard = .empty ∧
    (run besFixed (fresh c) [.emit (some k), .emit none]).2 = [(c, .raised), (c, freshObs besFixed c)] :=
  guard_last_failed_then_retry besFixed besFixed_sound besFixed_guard_last c k hk

/-- the witnesses against `cxHead` / `besHead` under the fixed order: raise, then the fresh emission -/
example : (run cxFixed (fresh 0) [.emit (some 2), .emit none]).2 = [(0, .raised), (0, freshObs cxFixed 0)] := by decide
example : (run cxFixed (fresh 0) [.emit none, .change 1, .emit (some 5), .emit none]).2
    = [(0, freshObs cxFixed 0), (1, .raised), (1, freshObs cxFixed 1)] := by decide
example : (run besFixed (fresh 0) [.emit (some 2), .emit none]).2 = [(0, .raised), (0, freshObs besFixed 0)] := by decide
example : ∀ op ∈ [Op.emit (some 2), .emit none, .change 1, .emit (some 5)], op.valid cxFixed := by
  simp [Op.valid, cxFixed]

open Cherab.Gen.BeamCacheOrder

theorem cxSource_eq_fixed : cxSource = cxFixed := by decide
theorem besSource_eq_fixed : besSource = besFixed := by decide

/-- every failure point the translator found in the source is a valid failure point of the model -/
theorem source_fail_points_valid :
    (∀ p ∈ cxFailAt, p.2 < cxSource.order.length) ∧ (∀ p ∈ besFailAt, p.2 < besSource.order.length) := by decide

/-- **`BeamCXLine` as the source has it**: a populate that fails at any point leaves `_target_species = None`; the next
emission is the one of a fresh model -/
theorem cxSource_failed_then_retry (c k : Nat) (hk : k < cxSource.order.length) :
    (populate cxSource (some k) (fresh c)).1.cache cxSource.guard = .empty ∧
    (run cxSource (fresh c) [.emit (some k), .emit none]).2 = [(c, .raised), (c, freshObs cxSource c)] := by
  rw [cxSource_eq_fixed] at hk ⊢; exact cxFixed_failed_then_retry c k hk

/-- **`BeamEmissionLine` as the source has it**: the same with `_rates_list` -/
theorem besSource_failed_then_retry (c k : Nat) (hk : k < besSource.order.length) :
    (populate besSource (some k) (fresh c)).1.cache besSource.guard = .empty ∧
    (run besSource (fresh c) [.emit (some k), .emit none]).2 = [(c, .raised), (c, freshObs besSource c)] := by
  rw [besSource_eq_fixed] at hk ⊢; exact besFixed_failed_then_retry c k hk

/-- **`BeamCXLine` as the source has it, all histories** (changes, emissions, provider failures at arbitrary points) -/
theorem cxSource_all_histories (c₀ : Nat) (ops : List Op) (hv : ∀ op ∈ ops, op.valid cxSource) :
    ∀ o ∈ (run cxSource (fresh c₀) ops).2, o.2 = freshObs cxSource o.1 ∨ o.2 = .raised := by
  rw [cxSource_eq_fixed] at hv ⊢; exact cxFixed_all_histories c₀ ops hv

/-- **`BeamEmissionLine` as the source has it, all histories** -/
theorem besSource_all_histories (c₀ : Nat) (ops : List Op) (hv : ∀ op ∈ ops, op.valid besSource) :
    ∀ o ∈ (run besSource (fresh c₀) ops).2, o.2 = freshObs besSource o.1 ∨ o.2 = .raised := by
  rw [besSource_eq_fixed] at hv ⊢; exact besFixed_all_histories c₀ ops hv

example : (2 : Nat) < cxSource.order.length := by decide
example : ∀ op ∈ [Op.emit (some 1), .change 4, .emit none], op.valid besSource := by
  simp [Op.valid, besSource]

end Cherab.Props.C05Cache
