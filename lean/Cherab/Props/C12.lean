import Cherab.Model.Equilibrium
import Mathlib.Tactic.Ring
import Mathlib.Tactic.FieldSimp
import Mathlib.Tactic.LinearCombination
import Mathlib.Tactic.NormNum
import Mathlib.Analysis.Real.Sqrt

/-!
# C12 — equilibrium mapping and flux-surface basis

Theorems about `Cherab/Model/Equilibrium.lean` over an arbitrary ordered field.
`sqrt`, `atan2`, `cos`, `sin`, `pi`, the interpolators, the polygon mask and the profiles are parameters;
the contracts used are named (`SqrtSpec`, `MaskSpec`, `c*c + s*s = 1`, `pi ≠ 0`).
-/
namespace Cherab.Props.C12
set_option linter.unusedSectionVars false
open Cherab.Equilibrium

variable {α : Type} [Field α] [LinearOrder α] [IsStrictOrderedRing α]

/-- contract of the square root on non-negative arguments -/
def SqrtSpec (sqrt : α → α) : Prop := ∀ x : α, 0 ≤ x → sqrt x * sqrt x = x ∧ 0 ≤ sqrt x

theorem V3.ext' {a b : V3 α} (hx : a.x = b.x) (hy : a.y = b.y) (hz : a.z = b.z) : a = b := by
  cases a; cases b; simp_all

/-! ## normalised flux -/

theorem clampLo_eq_max (mn v : α) : clampLo mn v = max mn v := by
  unfold clampLo; split_ifs with h
  · exact (max_eq_left h.le).symm
  · exact (max_eq_right (not_lt.mp h)).symm

/-- normalised flux is never negative -/
theorem psiN_nonneg (interpN : α → α → α) (r z : α) : 0 ≤ psiN interpN r z := by
  rw [psiN, clampLo_eq_max]; exact le_max_left _ _

/-- … and is the interpolated normalised grid value wherever that is non-negative -/
theorem psiN_eq_max (interpN : α → α → α) (r z : α) : psiN interpN r z = max 0 (interpN r z) :=
  clampLo_eq_max 0 _

/-- the grid normalisation sends the axis value to 0 and the LCFS value to 1 for either sign of
`psi_lcfs - psi_axis` -/
theorem normGrid_axis_lcfs (axis lcfs : α) (h : lcfs ≠ axis) :
    normGrid axis axis lcfs = 0 ∧ normGrid lcfs axis lcfs = 1 :=
  ⟨by rw [normGrid, sub_self, zero_div], div_self (sub_ne_zero.mpr h)⟩

/-- with an interpolation scheme that commutes with affine maps of the data (true of raysect's cubic
interpolator up to rounding; monitored in S) `psi_normalised` is the normalised flux of the point -/
theorem psiN_normalised_flux (interpN interpPsi : α → α → α) (axis lcfs r z : α)
    (haff : interpN r z = normGrid (interpPsi r z) axis lcfs) :
    psiN interpN r z = max 0 ((interpPsi r z - axis) / (lcfs - axis)) := by
  rw [psiN_eq_max, haff]; rfl

/-! ## LCFS mask and scalar mapping -/

theorem insideLcfs_one (poly psin : α) (h1 : 0 < poly) (h2 : psin ≤ 1) : insideLcfs poly psin = 1 :=
  if_pos ⟨h1, h2⟩

theorem insideLcfs_zero (poly psin : α) (h : ¬ (0 < poly ∧ psin ≤ 1)) : insideLcfs poly psin = 0 :=
  if_neg h

/-! The LCFS mask is an indicator, and at the values 0 and 1 raysect's `Blend2D` samples one of its two functions directly:
on such a mask it is a plain choice, the interpolating branches (`lerp`, `slerp`) are never reached, and the second function
(which may raise in the vector version) is only evaluated where the mask is 1. -/

theorem clamp01_zero : clamp01 (0 : α) = 0 := by
  rw [clamp01, if_neg (lt_irrefl _), if_neg (not_lt.mpr zero_le_one)]

theorem clamp01_one : clamp01 (1 : α) = 1 := by
  rw [clamp01, if_neg (not_lt.mpr zero_le_one), if_neg (lt_irrefl _)]

theorem blend_ite (P : Prop) [Decidable P] (f1 f2 : α) :
    blend (if P then 1 else 0) f1 f2 = if P then f2 else f1 := by
  split_ifs
  · simp only [blend, clamp01_one, beq_iff_eq, one_ne_zero, if_false, if_true]
  · simp only [blend, clamp01_zero, beq_self_eq_true, if_true]

theorem blendV_ite (slerp : V3 α → V3 α → α → V3 α) (P : Prop) [Decidable P] (f1 : V3 α) (f2 : Option (V3 α)) :
    blendV slerp (if P then 1 else 0) f1 f2 = if P then f2 else some f1 := by
  split_ifs
  · cases f2 <;> simp only [blendV, clamp01_one, beq_iff_eq, one_ne_zero, if_false, if_true]
  · simp only [blendV, clamp01_zero, beq_self_eq_true, if_true]

theorem map2d_cases (outside : α) (profile : α → α) (poly interpN : α → α → α) (r z : α) :
    map2d outside profile poly interpN r z =
      if 0 < poly r z ∧ psiN interpN r z ≤ 1 then profile (psiN interpN r z) else outside :=
  blend_ite _ _ _

/-- inside the LCFS (polygon ∧ ψN ≤ 1) the mapped function is the profile at the normalised flux of the point -/
theorem map2d_inside (outside : α) (profile : α → α) (poly interpN : α → α → α) (r z : α)
    (h1 : 0 < poly r z) (h2 : psiN interpN r z ≤ 1) :
    map2d outside profile poly interpN r z = profile (psiN interpN r z) := by
  rw [map2d_cases, if_pos ⟨h1, h2⟩]

/-- elsewhere it is the given outside value -/
theorem map2d_outside (outside : α) (profile : α → α) (poly interpN : α → α → α) (r z : α)
    (h : ¬ (0 < poly r z ∧ psiN interpN r z ≤ 1)) :
    map2d outside profile poly interpN r z = outside := by
  rw [map2d_cases, if_neg h]

/-- contract of the polygon mask (cherab `PolygonMask2D`): positive exactly on the points of the LCFS polygon.
With raysect's triangulated `Discrete2DMesh` alone (cherab before 01c2d07) it fails at floating-point points lying on an
internal edge of the polygon triangulation (finding C12-1 of `notes/C12.md`; S: crack search); `C12Mask.lean` is about
the mask with the winding-number fallback. -/
def MaskSpec (poly : α → α → α) (inPolygon : α → α → Prop) : Prop := ∀ r z, 0 < poly r z ↔ inPolygon r z

/-- the property sentence in geometric terms: with a correct polygon mask the mapped function is the profile at
the normalised flux of the point exactly on {polygon ∧ ψN ≤ 1} and the outside value elsewhere -/
theorem map2d_geometric (outside : α) (profile : α → α) (poly interpN : α → α → α) (inPolygon : α → α → Prop)
    [∀ r z, Decidable (inPolygon r z)] (hmask : MaskSpec poly inPolygon) (r z : α) :
    map2d outside profile poly interpN r z =
      if inPolygon r z ∧ psiN interpN r z ≤ 1 then profile (psiN interpN r z) else outside := by
  rw [map2d_cases]; exact if_congr (and_congr_left' (hmask r z)) rfl rfl

/-- the 3-D map is the 2-D map at the cylindrical radius … -/
theorem map3d_eq_map2d (sqrt : α → α) (outside : α) (profile : α → α) (poly interpN : α → α → α) (x y z : α) :
    map3d sqrt outside profile poly interpN x y z = map2d outside profile poly interpN (sqrt (x * x + y * y)) z := rfl

/-- … so it depends on `(x, y)` only through `x² + y²` … -/
theorem map3d_radius_only (sqrt : α → α) (outside : α) (profile : α → α) (poly interpN : α → α → α)
    (x y x' y' z : α) (h : x * x + y * y = x' * x' + y' * y') :
    map3d sqrt outside profile poly interpN x y z = map3d sqrt outside profile poly interpN x' y' z := by
  unfold map3d; rw [h]

/-- … and invariant under every rotation about the z axis -/
theorem map3d_axisymmetric (sqrt : α → α) (outside : α) (profile : α → α) (poly interpN : α → α → α)
    (x y z c s : α) (hcs : c * c + s * s = 1) :
    map3d sqrt outside profile poly interpN (c * x - s * y) (s * x + c * y) z =
      map3d sqrt outside profile poly interpN x y z :=
  map3d_radius_only _ _ _ _ _ _ _ _ _ _ (by linear_combination (x * x + y * y) * hcs)

/-- with the sqrt contract the radius handed to the 2-D function is the non-negative cylindrical radius -/
theorem map3d_radius (sqrt : α → α) (hs : SqrtSpec sqrt) (x y : α) :
    sqrt (x * x + y * y) * sqrt (x * x + y * y) = x * x + y * y ∧ 0 ≤ sqrt (x * x + y * y) :=
  hs _ (add_nonneg (mul_self_nonneg x) (mul_self_nonneg y))

/-! ## magnetic field -/

/-- `B = (−ψ_z / r, F(ψN) / r  |  B_vac R_vac / r, ψ_r / r)` -/
theorem bField_components (dr dz inside psin : α) (fprof : α → α) (rvac bvac r : α) :
    (bField dr dz inside psin fprof rvac bvac r).x = -dz / r ∧
    (bField dr dz inside psin fprof rvac bvac r).z = dr / r ∧
    (inside ≠ 0 → (bField dr dz inside psin fprof rvac bvac r).y = fprof psin / r) ∧
    (inside = 0 → (bField dr dz inside psin fprof rvac bvac r).y = bvac * rvac / r) := by
  refine ⟨rfl, rfl, fun h => ?_, fun h => ?_⟩ <;> simp [bField, h]

/-- the in-plane field is tangent to the flux surface: `B · ∇ψ = 0` -/
theorem field_tangent_to_flux_surface (dr dz inside psin : α) (fprof : α → α) (rvac bvac r : α) :
    (bField dr dz inside psin fprof rvac bvac r).x * dr + (bField dr dz inside psin fprof rvac bvac r).z * dz = 0 := by
  simp only [bField]; ring

/-! ## flux-surface basis -/

theorem mul_self_add_mul_self_pos {u w : α} (h : ¬ (u = 0 ∧ w = 0)) : 0 < u * u + w * w :=
  lt_of_le_of_ne (add_nonneg (mul_self_nonneg u) (mul_self_nonneg w))
    fun h0 => h (mul_self_add_mul_self_eq_zero.mp h0.symm)

theorem SqrtSpec.one_div_sqrt {sqrt : α → α} (hs : SqrtSpec sqrt) {q : α} (hq : 0 < q) :
    0 < 1 / sqrt q ∧ 1 / sqrt q * (1 / sqrt q) * q = 1 := by
  obtain ⟨h1, h2⟩ := hs q hq.le
  have hpos : 0 < sqrt q := lt_of_le_of_ne h2 fun h0 => by rw [← h0, mul_zero] at h1; exact hq.ne h1
  refine ⟨one_div_pos.mpr hpos, ?_⟩
  rw [div_mul_div_comm, h1, mul_one, one_div_mul_cancel hq.ne']

theorem normalise_eq_setLength (sqrt : α → α) (v : V3 α) : normalise sqrt v = setLength sqrt v 1 := rfl

theorem setLength_eq (sqrt : α → α) (v : V3 α) (len q : α) (hq : v.x * v.x + v.y * v.y + v.z * v.z = q) (hq0 : q ≠ 0) :
    setLength sqrt v len = some ⟨v.x * (len / sqrt q), v.y * (len / sqrt q), v.z * (len / sqrt q)⟩ := by
  simp only [setLength, hq, beq_iff_eq, hq0, if_false]

theorem guard_eq_false {u w : α} (h : ¬ (u = 0 ∧ w = 0)) : (u == 0 && w == 0) = false := by
  simpa using h

/-- The one factor by which `PoloidalFieldVector`, `FluxSurfaceNormal` and `FluxCoordToCartesian` scale the in-plane field
`(b_r, 0, b_z)` and its quarter turn `(−b_z, 0, b_r)`: `1/|b_p|`, and 0 at the degenerate point, where the code returns
zero vectors instead of normalising. -/
def basisScale (sqrt : α → α) (b : V3 α) : α := if b.x = 0 ∧ b.z = 0 then 0 else 1 / sqrt (b.x * b.x + b.z * b.z)

theorem basisScale_spec {sqrt : α → α} (hs : SqrtSpec sqrt) {b : V3 α} (h : ¬ (b.x = 0 ∧ b.z = 0)) :
    0 < basisScale sqrt b ∧ basisScale sqrt b * basisScale sqrt b * (b.x * b.x + b.z * b.z) = 1 := by
  rw [basisScale, if_neg h]; exact hs.one_div_sqrt (mul_self_add_mul_self_pos h)

theorem basis_eq (sqrt : α → α) (b : V3 α) :
    poloidalVector sqrt b = some ⟨b.x * basisScale sqrt b, 0 * basisScale sqrt b, b.z * basisScale sqrt b⟩ ∧
    surfaceNormal sqrt b = some ⟨-b.z * basisScale sqrt b, 0 * basisScale sqrt b, b.x * basisScale sqrt b⟩ := by
  by_cases h : b.x = 0 ∧ b.z = 0
  · simp [poloidalVector, surfaceNormal, basisScale, h]
  · have hq := (mul_self_add_mul_self_pos h).ne'
    simp only [poloidalVector, surfaceNormal, normalise_eq_setLength, guard_eq_false h, basisScale, if_neg h,
      Bool.false_eq_true, if_false]
    exact ⟨setLength_eq sqrt _ 1 _ (by ring) hq, setLength_eq sqrt _ 1 _ (by ring) hq⟩

/-- neither basis vector raises in exact arithmetic: the guard `b.x == 0 and b.z == 0` covers exactly the
zero-length case (in floating point `b.x*b.x + b.z*b.z` can underflow to 0 for |b| < 1e-162: monitored) -/
theorem basis_defined (sqrt : α → α) (b : V3 α) :
    (∃ p, poloidalVector sqrt b = some p) ∧ (∃ n, surfaceNormal sqrt b = some n) :=
  ⟨⟨_, (basis_eq sqrt b).1⟩, ⟨_, (basis_eq sqrt b).2⟩⟩

/-- documented convenience: at a point with no in-plane field both vectors are the zero vector -/
theorem basis_degenerate (sqrt : α → α) (b : V3 α) (h : b.x = 0 ∧ b.z = 0) :
    poloidalVector sqrt b = some ⟨0, 0, 0⟩ ∧ surfaceNormal sqrt b = some ⟨0, 0, 0⟩ := by
  simp [poloidalVector, surfaceNormal, h]

/-- toroidal, poloidal and surface-normal vectors are orthonormal -/
theorem basis_orthonormal (sqrt : α → α) (hs : SqrtSpec sqrt) (b p n : V3 α) (h : ¬ (b.x = 0 ∧ b.z = 0))
    (hp : poloidalVector sqrt b = some p) (hn : surfaceNormal sqrt b = some n) :
    dot p p = 1 ∧ dot n n = 1 ∧ dot (toroidalVector : V3 α) toroidalVector = 1 ∧
    dot p n = 0 ∧ dot p toroidalVector = 0 ∧ dot n toroidalVector = 0 := by
  obtain ⟨_, hk⟩ := basisScale_spec hs h
  rw [(basis_eq sqrt b).1] at hp; rw [(basis_eq sqrt b).2] at hn
  cases hp; cases hn
  simp only [dot, toroidalVector]
  exact ⟨by linear_combination hk, by linear_combination hk, by ring, by ring, by ring, by ring⟩

/-- normal = poloidal × toroidal -/
theorem normal_is_pol_cross_tor (sqrt : α → α) (b p n : V3 α)
    (hp : poloidalVector sqrt b = some p) (hn : surfaceNormal sqrt b = some n) :
    n = cross p toroidalVector := by
  rw [(basis_eq sqrt b).1] at hp; rw [(basis_eq sqrt b).2] at hn
  cases hp; cases hn
  apply V3.ext' <;> simp only [cross, toroidalVector] <;> ring

/-- the poloidal vector lies along the in-plane field `(b_r, 0, b_z)`, same sense -/
theorem poloidal_along_field (sqrt : α → α) (hs : SqrtSpec sqrt) (b p : V3 α) (h : ¬ (b.x = 0 ∧ b.z = 0))
    (hp : poloidalVector sqrt b = some p) : ∃ k : α, 0 < k ∧ p = smul k ⟨b.x, 0, b.z⟩ := by
  rw [(basis_eq sqrt b).1] at hp; cases hp
  exact ⟨_, (basisScale_spec hs h).1, V3.ext' (mul_comm _ _) (mul_comm _ _) (mul_comm _ _)⟩

/-- the field has no component along the surface normal (any field vector, degenerate point included) -/
theorem field_tangent (sqrt : α → α) (b n : V3 α) (hn : surfaceNormal sqrt b = some n) : dot b n = 0 := by
  rw [(basis_eq sqrt b).2] at hn; cases hn
  simp only [dot]; ring

/-- the same statement for the equilibrium's own field at any point -/
theorem eq_field_tangent (sqrt : α → α) (e : Eq α) (r z : α) (n : V3 α) (hn : e.normal sqrt r z = some n) :
    dot (e.bField r z) n = 0 := field_tangent sqrt _ n hn

/-- the surface normal is anti-parallel to `∇ψ` for `r > 0` (it points outwards iff ψ decreases outwards:
the sense follows the sign of `psi_lcfs − psi_axis`; the property only fixes `n = p × t`) -/
theorem normal_antiparallel_grad_psi (sqrt : α → α) (hs : SqrtSpec sqrt) (e : Eq α) (r z : α) (n : V3 α) (hr : 0 < r)
    (h : ¬ ((e.bField r z).x = 0 ∧ (e.bField r z).z = 0)) (hn : e.normal sqrt r z = some n) :
    ∃ k : α, 0 < k ∧ n = smul (-k) ⟨e.dpsidr r z, 0, e.dpsidz r z⟩ := by
  rw [Eq.normal, (basis_eq sqrt _).2] at hn; cases hn
  refine ⟨basisScale sqrt (e.bField r z) / r, div_pos (basisScale_spec hs h).1 hr, ?_⟩
  generalize basisScale sqrt (e.bField r z) = k
  apply V3.ext' <;> simp only [smul, Eq.bField, bField] <;> ring

theorem dot_smul (k : α) (u v : V3 α) : dot (smul k u) v = k * dot u v := by
  simp only [dot, smul]; ring

/-- the in-plane field vanishes exactly where ∇ψ does (r ≠ 0) -/
theorem eq_field_nonzero_iff_gradient (e : Eq α) (r z : α) (hr : r ≠ 0) :
    ((e.bField r z).x = 0 ∧ (e.bField r z).z = 0) ↔ (e.dpsidr r z = 0 ∧ e.dpsidz r z = 0) := by
  simp only [Eq.bField, bField, div_eq_zero_iff, neg_eq_zero, hr, or_false]
  exact and_comm

/-- For every point with r > 0 and ∇ψ ≠ 0, whatever the sign convention of ψ: the three vectors exist, are orthonormal,
n = p × t, the poloidal vector and the field are tangent to the flux surface (p·∇ψ = 0, B·n = 0), and the normal points
down the ψ gradient (n·∇ψ < 0: outwards iff ψ decreases outwards, i.e. iff ψ_lcfs < ψ_axis). -/
theorem eq_basis_wrt_gradient (sqrt : α → α) (hs : SqrtSpec sqrt) (e : Eq α) (r z : α) (hr : 0 < r)
    (hg : ¬ (e.dpsidr r z = 0 ∧ e.dpsidz r z = 0)) :
    ∃ p n, e.poloidal sqrt r z = some p ∧ e.normal sqrt r z = some n ∧
      (dot p p = 1 ∧ dot n n = 1 ∧ dot p n = 0 ∧ dot p toroidalVector = 0 ∧ dot n toroidalVector = 0) ∧
      n = cross p toroidalVector ∧
      dot p ⟨e.dpsidr r z, 0, e.dpsidz r z⟩ = 0 ∧
      dot n ⟨e.dpsidr r z, 0, e.dpsidz r z⟩ < 0 ∧
      dot (e.bField r z) n = 0 := by
  have hb : ¬ ((e.bField r z).x = 0 ∧ (e.bField r z).z = 0) :=
    mt (eq_field_nonzero_iff_gradient e r z hr.ne').mp hg
  obtain ⟨⟨p, hp⟩, ⟨n, hn⟩⟩ := basis_defined sqrt (e.bField r z)
  obtain ⟨h1, h2, _, h4, h5, h6⟩ := basis_orthonormal sqrt hs _ p n hb hp hn
  obtain ⟨k, hk, hpk⟩ := poloidal_along_field sqrt hs _ p hb hp
  obtain ⟨k', hk', hnk⟩ := normal_antiparallel_grad_psi sqrt hs e r z n hr hb hn
  refine ⟨p, n, hp, hn, ⟨h1, h2, h4, h5, h6⟩, normal_is_pol_cross_tor sqrt _ p n hp hn, ?_, ?_, field_tangent sqrt _ n hn⟩
  · -- p = k B_p, and B_p · ∇ψ = 0
    rw [hpk, dot_smul, mul_eq_zero]; right
    simp only [dot, mul_zero, add_zero]; exact field_tangent_to_flux_surface _ _ _ _ _ _ _ _
  · -- n = −k' ∇ψ with k' > 0, so n · ∇ψ = −k' |∇ψ|²
    rw [hnk, dot_smul]
    refine mul_neg_of_neg_of_pos (neg_neg_of_pos hk') ?_
    simp only [dot, mul_zero, add_zero]; exact mul_self_add_mul_self_pos hg

/-! ## velocity mapping -/

theorem flux_eq (sqrt : α → α) (f : V3 α) (psi : α) (tor pol nrm : α → α) :
    fluxCoordToCartesian sqrt f psi tor pol nrm =
      some ⟨f.x * (pol psi * basisScale sqrt f) + -f.z * (nrm psi * basisScale sqrt f), tor psi,
            f.z * (pol psi * basisScale sqrt f) + f.x * (nrm psi * basisScale sqrt f)⟩ := by
  by_cases h : f.x = 0 ∧ f.z = 0
  · simp [fluxCoordToCartesian, h]
  · have hq := (mul_self_add_mul_self_pos h).ne'
    simp only [fluxCoordToCartesian, guard_eq_false h, basisScale, if_neg h, Bool.false_eq_true, if_false,
      setLength_eq sqrt ⟨f.x, 0, f.z⟩ _ _ (by ring) hq, setLength_eq sqrt ⟨-f.z, 0, f.x⟩ _ _ (by ring) hq,
      div_eq_mul_one_div (pol psi), div_eq_mul_one_div (nrm psi)]

/-- a mapped velocity has exactly the prescribed toroidal, poloidal and normal components in the flux basis
(and the conversion does not raise) -/
theorem velocity_components (sqrt : α → α) (hs : SqrtSpec sqrt) (f p n : V3 α) (psi : α) (tor pol nrm : α → α)
    (h : ¬ (f.x = 0 ∧ f.z = 0))
    (hp : poloidalVector sqrt f = some p) (hn : surfaceNormal sqrt f = some n) :
    ∃ v, fluxCoordToCartesian sqrt f psi tor pol nrm = some v ∧
      dot v toroidalVector = tor psi ∧ dot v p = pol psi ∧ dot v n = nrm psi := by
  obtain ⟨_, hk⟩ := basisScale_spec hs h
  rw [(basis_eq sqrt f).1] at hp; rw [(basis_eq sqrt f).2] at hn
  cases hp; cases hn
  refine ⟨_, flux_eq sqrt f psi tor pol nrm, ?_, ?_, ?_⟩ <;> simp only [dot, toroidalVector]
  · ring
  · linear_combination pol psi * hk
  · linear_combination nrm psi * hk

/-- degenerate point: only the toroidal component survives (documented convenience) -/
theorem velocity_degenerate (sqrt : α → α) (f : V3 α) (psi : α) (tor pol nrm : α → α) (h : f.x = 0 ∧ f.z = 0) :
    fluxCoordToCartesian sqrt f psi tor pol nrm = some ⟨0, tor psi, 0⟩ := by
  simp [fluxCoordToCartesian, h.1, h.2]

/-- `map_vector2d`: flux-coordinate velocity at the normalised flux of the point inside the LCFS, the given
vector elsewhere -/
theorem mapVector2d_cases (sqrt : α → α) (slerp : V3 α → V3 α → α → V3 α) (e : Eq α) (outside : V3 α)
    (tor pol nrm : α → α) (r z : α) :
    e.mapVector2d sqrt slerp outside tor pol nrm r z =
      if 0 < e.poly r z ∧ e.psiN r z ≤ 1 then fluxCoordToCartesian sqrt (e.bField r z) (e.psiN r z) tor pol nrm
      else some outside :=
  blendV_ite slerp _ _ _

/-- … and the toroidal field component used there is `F(ψN)/r` inside, the vacuum field outside -/
theorem eq_bField_toroidal (e : Eq α) (r z : α) :
    (e.bField r z).y = if 0 < e.poly r z ∧ e.psiN r z ≤ 1 then e.fprof (e.psiN r z) / r else e.bvac * e.rvac / r := by
  unfold Eq.bField Eq.inside
  split_ifs with h
  · rw [insideLcfs_one _ _ h.1 h.2]; exact (bField_components ..).2.2.1 one_ne_zero
  · rw [insideLcfs_zero _ _ h]; exact (bField_components ..).2.2.2 rfl

/-! ## rotation with toroidal angle (3-D) -/

theorem rotAngle_eq (atan2 : α → α → α) (pi x y : α) (hpi : pi ≠ 0) : rotAngle atan2 pi x y = atan2 y x := by
  unfold rotAngle
  have h180 : (((180 : ℕ) : α)) ≠ 0 := by norm_num
  field_simp

theorem rotateZ_eq (c s : α) (v : V3 α) : rotateZ c s v = ⟨c * v.x - s * v.y, s * v.x + c * v.y, v.z⟩ := by
  apply V3.ext' <;> simp only [rotateZ] <;> ring

/-- rotation about z preserves scalar products … -/
theorem rotateZ_dot (c s : α) (hcs : c * c + s * s = 1) (u v : V3 α) :
    dot (rotateZ c s u) (rotateZ c s v) = dot u v := by
  simp only [dot, rotateZ_eq]
  linear_combination (u.x * v.x + u.y * v.y) * hcs

/-- … and cross products -/
theorem rotateZ_cross (c s : α) (hcs : c * c + s * s = 1) (u v : V3 α) :
    rotateZ c s (cross u v) = cross (rotateZ c s u) (rotateZ c s v) := by
  simp only [rotateZ_eq, cross]
  apply V3.ext' <;> dsimp only
  · ring
  · ring
  · linear_combination (-(u.x * v.y - u.y * v.x)) * hcs

/-- 3-D: the mapped vector is the 2-D vector at the cylindrical radius rotated by the toroidal angle, and its
components in the equally rotated basis are unchanged -/
theorem rotation_preserves_components (sqrt : α → α) (atan2 : α → α → α) (cos sin : α → α) (pi : α)
    (f2d : α → α → Option (V3 α)) (x y z : α) (w : V3 α)
    (hcs : ∀ a, cos a * cos a + sin a * sin a = 1) (hpi : pi ≠ 0)
    (hw : vectorAxisymmetric sqrt atan2 cos sin pi f2d x y z = some w) :
    ∃ v, f2d (sqrt (x * x + y * y)) z = some v ∧
      w = rotateZ (cos (atan2 y x)) (sin (atan2 y x)) v ∧
      ∀ u, dot w (rotateZ (cos (atan2 y x)) (sin (atan2 y x)) u) = dot v u := by
  unfold vectorAxisymmetric at hw
  rw [rotAngle_eq atan2 pi x y hpi] at hw
  cases hv : f2d (sqrt (x * x + y * y)) z with
  | none => rw [hv] at hw; cases hw
  | some v =>
    rw [hv] at hw; cases hw
    exact ⟨v, rfl, rfl, fun u => rotateZ_dot _ _ (hcs _) v u⟩

/-- the rotated basis again has `n' = p' × t'`, `t'` being the rotated `(0,1,0)` (its scalar products are those of the unrotated
basis by `rotateZ_dot`) -/
theorem rotated_basis (c s : α) (hcs : c * c + s * s = 1) (p n : V3 α)
    (hn : n = cross p toroidalVector) :
    rotateZ c s n = cross (rotateZ c s p) (rotateZ c s toroidalVector) ∧
    (rotateZ c s (toroidalVector : V3 α)) = ⟨-s, c, 0⟩ := by
  constructor
  · rw [hn, rotateZ_cross c s hcs]
  · apply V3.ext' <;> simp only [rotateZ_eq, toroidalVector] <;> ring

/-- with the `atan2` contract (`cos φ = x/ρ`, `sin φ = y/ρ`) the rotated radial and toroidal unit vectors are the
cylindrical unit vectors at `(x, y)` -/
theorem rotated_directions (rho x y c s : α) (hc : c * rho = x) (hsn : s * rho = y) :
    smul rho (rotateZ c s ⟨1, 0, 0⟩) = ⟨x, y, 0⟩ ∧ smul rho (rotateZ c s toroidalVector) = ⟨-y, x, 0⟩ := by
  subst hc hsn
  constructor <;> apply V3.ext' <;> simp only [smul, rotateZ_eq, toroidalVector] <;> ring

/-- `map_vector3d` = rotated `map_vector2d` at the cylindrical radius -/
theorem mapVector3d_eq (sqrt : α → α) (atan2 : α → α → α) (cos sin : α → α) (pi : α)
    (slerp : V3 α → V3 α → α → V3 α) (e : Eq α) (outside : V3 α) (tor pol nrm : α → α) (x y z : α) (w : V3 α)
    (hcs : ∀ a, cos a * cos a + sin a * sin a = 1) (hpi : pi ≠ 0)
    (hw : e.mapVector3d sqrt atan2 cos sin pi slerp outside tor pol nrm x y z = some w) :
    ∃ v, e.mapVector2d sqrt slerp outside tor pol nrm (sqrt (x * x + y * y)) z = some v ∧
      w = rotateZ (cos (atan2 y x)) (sin (atan2 y x)) v ∧
      ∀ u, dot w (rotateZ (cos (atan2 y x)) (sin (atan2 y x)) u) = dot v u :=
  rotation_preserves_components sqrt atan2 cos sin pi _ x y z w hcs hpi hw

/-! ## the property sentence at the level of one equilibrium -/

/-- scalar mapping of an equilibrium: profile at the normalised flux of the point inside the LCFS, outside value elsewhere -/
theorem eq_map2d_cases (e : Eq α) (outside : α) (profile : α → α) (r z : α) :
    e.map2d outside profile r z =
      if 0 < e.poly r z ∧ e.psiN r z ≤ 1 then profile (e.psiN r z) else outside :=
  map2d_cases outside profile e.poly e.interpN r z

/-- … axisymmetric in 3-D -/
theorem eq_map3d_axisymmetric (sqrt : α → α) (e : Eq α) (outside : α) (profile : α → α) (x y z c s : α)
    (hcs : c * c + s * s = 1) :
    e.map3d sqrt outside profile (c * x - s * y) (s * x + c * y) z = e.map3d sqrt outside profile x y z :=
  map3d_axisymmetric sqrt outside profile e.poly e.interpN x y z c s hcs

theorem eq_psiN_nonneg (e : Eq α) (r z : α) : 0 ≤ e.psiN r z := psiN_nonneg e.interpN r z

/-- inside the LCFS, away from the degenerate point, `map_vector2d` does not raise and has exactly the prescribed
components in the equilibrium's own basis at that point -/
theorem eq_velocity_components (sqrt : α → α) (hs : SqrtSpec sqrt) (slerp : V3 α → V3 α → α → V3 α) (e : Eq α)
    (outside : V3 α) (tor pol nrm : α → α) (r z : α) (p n : V3 α)
    (hin : 0 < e.poly r z ∧ e.psiN r z ≤ 1)
    (h : ¬ ((e.bField r z).x = 0 ∧ (e.bField r z).z = 0))
    (hp : e.poloidal sqrt r z = some p) (hn : e.normal sqrt r z = some n) :
    ∃ v, e.mapVector2d sqrt slerp outside tor pol nrm r z = some v ∧
      dot v toroidalVector = tor (e.psiN r z) ∧ dot v p = pol (e.psiN r z) ∧ dot v n = nrm (e.psiN r z) := by
  rw [mapVector2d_cases, if_pos hin]
  exact velocity_components sqrt hs _ p n _ tor pol nrm h hp hn

/-- 3-D: the same components with respect to the basis rotated to the toroidal angle of the point -/
theorem eq_velocity_components_3d (sqrt : α → α) (hs : SqrtSpec sqrt) (atan2 : α → α → α) (cos sin : α → α) (pi : α)
    (slerp : V3 α → V3 α → α → V3 α) (e : Eq α) (outside : V3 α) (tor pol nrm : α → α) (x y z : α) (p n w : V3 α)
    (hcs : ∀ a, cos a * cos a + sin a * sin a = 1) (hpi : pi ≠ 0)
    (hin : 0 < e.poly (sqrt (x * x + y * y)) z ∧ e.psiN (sqrt (x * x + y * y)) z ≤ 1)
    (h : ¬ ((e.bField (sqrt (x * x + y * y)) z).x = 0 ∧ (e.bField (sqrt (x * x + y * y)) z).z = 0))
    (hp : e.poloidal sqrt (sqrt (x * x + y * y)) z = some p) (hn : e.normal sqrt (sqrt (x * x + y * y)) z = some n)
    (hw : e.mapVector3d sqrt atan2 cos sin pi slerp outside tor pol nrm x y z = some w) :
    let R := rotateZ (cos (atan2 y x)) (sin (atan2 y x))
    dot w (R toroidalVector) = tor (e.psiN (sqrt (x * x + y * y)) z) ∧
    dot w (R p) = pol (e.psiN (sqrt (x * x + y * y)) z) ∧
    dot w (R n) = nrm (e.psiN (sqrt (x * x + y * y)) z) := by
  obtain ⟨v, hv, _, hdot⟩ := mapVector3d_eq sqrt atan2 cos sin pi slerp e outside tor pol nrm x y z w hcs hpi hw
  obtain ⟨v', hv', h1, h2, h3⟩ := eq_velocity_components sqrt hs slerp e outside tor pol nrm _ z p n hin h hp hn
  rw [hv] at hv'; cases hv'
  exact ⟨(hdot _).trans h1, (hdot _).trans h2, (hdot _).trans h3⟩

/-- outside the LCFS the 2-D vector map is the given outside vector … -/
theorem eq_mapVector2d_outside (sqrt : α → α) (slerp : V3 α → V3 α → α → V3 α) (e : Eq α)
    (outside : V3 α) (tor pol nrm : α → α) (r z : α) (hout : ¬ (0 < e.poly r z ∧ e.psiN r z ≤ 1)) :
    e.mapVector2d sqrt slerp outside tor pol nrm r z = some outside := by
  rw [mapVector2d_cases, if_neg hout]

/-- … and the 3-D vector map that vector rotated to the toroidal angle of the point -/
theorem eq_mapVector3d_outside (sqrt : α → α) (atan2 : α → α → α) (cos sin : α → α) (pi : α)
    (slerp : V3 α → V3 α → α → V3 α) (e : Eq α) (outside : V3 α) (tor pol nrm : α → α) (x y z : α)
    (hpi : pi ≠ 0)
    (hout : ¬ (0 < e.poly (sqrt (x * x + y * y)) z ∧ e.psiN (sqrt (x * x + y * y)) z ≤ 1)) :
    e.mapVector3d sqrt atan2 cos sin pi slerp outside tor pol nrm x y z =
      some (rotateZ (cos (atan2 y x)) (sin (atan2 y x)) outside) := by
  unfold Eq.mapVector3d vectorAxisymmetric
  rw [eq_mapVector2d_outside sqrt slerp e outside tor pol nrm _ z hout, rotAngle_eq atan2 pi x y hpi]

/-! ## profile tables: which rows are read is decided by the number of rows alone -/

/-- a 2×N array is read as (abscissa row, ordinate row) for every N — in particular a 2×2 array is **not** transposed -/
theorem profileRows_2xN {β : Type} (x f : List β) : profileRows [x, f] = some (x, f) := rfl

theorem profileRows_2x2 {β : Type} (a b c d : β) : profileRows [[a, b], [c, d]] = some ([a, b], [c, d]) := rfl

/-- the code does not validate the shape: any array with at least two rows is accepted and read through its
first two rows (3×N: third row ignored; N×2 with N ≥ 3: rows 0 and 1 become a two-knot profile) -/
theorem profileRows_extra_rows {β : Type} (x f : List β) (rest : List (List β)) :
    profileRows (x :: f :: rest) = some (x, f) := rfl

/-- decision form: an array (list of rows) is accepted iff it has at least two rows, and then rows 0 and 1 are the abscissa
and the ordinate — independent of the number of columns, so neither 2×2 nor N×2 is ever transposed -/
theorem profileRows_decision {β : Type} (rows : List (List β)) :
    profileRows rows = if h : 2 ≤ rows.length then some (rows[0], rows[1]) else none := by
  match rows with
  | [] => rfl
  | [_] => rfl
  | _ :: _ :: _ => rfl

/-- fewer than two rows (1×N, empty) are rejected … -/
theorem profileRows_rejects {β : Type} (rows : List (List β)) (h : rows.length < 2) : profileRows rows = none := by
  rw [profileRows_decision, dif_neg (not_le.mpr h)]

/-- … and so are arrays that are not 2-d -/
theorem profileOfArray_ndim {β : Type} (ndim : Nat) (rows : List (List β)) :
    profileOfArray ndim rows = if ndim = 2 then profileRows rows else none := rfl

/-- a 2×2 table and its transpose are read differently unless they coincide: the orientation is never guessed -/
theorem profileRows_2x2_orientation {β : Type} (a b c d : β) (h : b ≠ c) :
    profileRows [[a, b], [c, d]] ≠ profileRows [[a, c], [b, d]] := by
  simp [profileRows, h]

/-! ## finite-difference derivative grids on a non-uniform axis (`_calculate_differentials`) -/

/-! numpy's stencils and the node formula with the float literals evaluated -/

theorem gradInterior_eq (fm fp : α) : gradInterior fm fp = (fp - fm) / 2 := by
  simp only [gradInterior]; norm_num

theorem gradFirst_eq (f0 f1 f2 : α) : gradFirst f0 f1 f2 = (-3 * f0 + 4 * f1 - f2) / 2 := by
  unfold gradFirst; norm_num1; ring

theorem gradLast_eq (f0 f1 f2 : α) : gradLast f0 f1 f2 = (f0 - 4 * f1 + 3 * f2) / 2 := by
  unfold gradLast; norm_num1; ring

theorem dpsiNode_eq (g gr : α) : dpsiNode g gr = g / gr := by
  unfold dpsiNode; norm_num1; rw [mul_one_div]

theorem dpsiNode_of_eq_mul {g a gr : α} (hg : g = a * gr) (h : gr ≠ 0) : dpsiNode g gr = a := by
  rw [hg, dpsiNode_eq, mul_div_assoc, div_self h, mul_one]

/-- interior node on any grid: the index-space chain rule is the central divided difference over the two neighbours -/
theorem dpsi_interior_eq (fm fp rm rp : α) :
    dpsiNode (gradInterior fm fp) (gradInterior rm rp) = (fp - fm) / (rp - rm) := by
  rw [dpsiNode_eq, gradInterior_eq, gradInterior_eq, div_div_div_cancel_right₀ two_ne_zero]

/-- exact for affine ψ(r) = a r + b at every node type of any (non-degenerate) grid -/
theorem dpsi_affine_exact (a b r0 r1 r2 : α) :
    (r2 ≠ r0 → dpsiNode (gradInterior (a * r0 + b) (a * r2 + b)) (gradInterior r0 r2) = a) ∧
    (gradFirst r0 r1 r2 ≠ 0 → dpsiNode (gradFirst (a * r0 + b) (a * r1 + b) (a * r2 + b)) (gradFirst r0 r1 r2) = a) ∧
    (gradLast r0 r1 r2 ≠ 0 → dpsiNode (gradLast (a * r0 + b) (a * r1 + b) (a * r2 + b)) (gradLast r0 r1 r2) = a) := by
  -- each stencil annihilates constants and is linear, so it takes `a r + b` to `a` times its value on `r`
  refine ⟨fun h => dpsiNode_of_eq_mul (by simp only [gradInterior_eq]; ring) ?_,
    dpsiNode_of_eq_mul (by simp only [gradFirst_eq]; ring),
    dpsiNode_of_eq_mul (by simp only [gradLast_eq]; ring)⟩
  rw [gradInterior_eq]; exact div_ne_zero (sub_ne_zero.mpr h) two_ne_zero

/-- quadratic ψ(r) = a r² + b r + c at an interior node `ri` with neighbours `rm`, `rp` on an arbitrary grid: the code's value
is the true derivative plus `a·((rp − ri) − (ri − rm))` — first-order in the local non-uniformity -/
theorem dpsi_interior_quadratic (a b c rm ri rp : α) (h : rp ≠ rm) :
    dpsiNode (gradInterior (a * rm * rm + b * rm + c) (a * rp * rp + b * rp + c)) (gradInterior rm rp)
      = (2 * a * ri + b) + a * ((rp - ri) - (ri - rm)) := by
  rw [dpsi_interior_eq, div_eq_iff (sub_ne_zero.mpr h)]; ring

/-- hence exact for a quadratic iff the grid is locally uniform (or the quadratic term vanishes) -/
theorem dpsi_interior_quadratic_exact_iff (a b c rm ri rp : α) (h : rp ≠ rm) :
    dpsiNode (gradInterior (a * rm * rm + b * rm + c) (a * rp * rp + b * rp + c)) (gradInterior rm rp) = 2 * a * ri + b
      ↔ (a = 0 ∨ rp - ri = ri - rm) := by
  rw [dpsi_interior_quadratic a b c rm ri rp h, add_eq_left, mul_eq_zero, sub_eq_zero]

/-- on a uniform grid (spacing h ≠ 0) the value is exact for quadratics at all three node types, the one-sided edge
formulas included -/
theorem dpsi_uniform_quadratic_exact (a b c r0 h : α) (hh : h ≠ 0) :
    let q : α → α := fun r => a * r * r + b * r + c
    dpsiNode (gradFirst (q r0) (q (r0 + h)) (q (r0 + 2 * h))) (gradFirst r0 (r0 + h) (r0 + 2 * h)) = 2 * a * r0 + b ∧
    dpsiNode (gradInterior (q r0) (q (r0 + 2 * h))) (gradInterior r0 (r0 + 2 * h)) = 2 * a * (r0 + h) + b ∧
    dpsiNode (gradLast (q r0) (q (r0 + h)) (q (r0 + 2 * h))) (gradLast r0 (r0 + h) (r0 + 2 * h)) = 2 * a * (r0 + 2 * h) + b := by
  intro q
  -- every stencil gives `h` on the axis and `q' · h` on the quadratic, `q'` taken at the node
  have g1 : gradFirst r0 (r0 + h) (r0 + 2 * h) = h := by rw [gradFirst_eq]; ring
  have g2 : gradInterior r0 (r0 + 2 * h) = h := by rw [gradInterior_eq]; ring
  have g3 : gradLast r0 (r0 + h) (r0 + 2 * h) = h := by rw [gradLast_eq]; ring
  rw [g1, g2, g3]
  exact ⟨dpsiNode_of_eq_mul (by rw [gradFirst_eq]; ring) hh,
    dpsiNode_of_eq_mul (by rw [gradInterior_eq]; ring) hh,
    dpsiNode_of_eq_mul (by rw [gradLast_eq]; ring) hh⟩

/-- witness (non-uniform axis 0, 1, 3; ψ = r²): the code's derivative at r = 1 is 3, the true one 2 -/
example : dpsiNode (gradInterior ((0 : ℚ) * 0) (3 * 3)) (gradInterior (0 : ℚ) 3) = 3 := by
  rw [dpsi_interior_eq]; norm_num

/-! ## non-vacuity -/

/-- the hypotheses of `eq_basis_wrt_gradient` are satisfiable -/
example : ∃ (e : Eq ℝ) (r z : ℝ), 0 < r ∧ ¬ (e.dpsidr r z = 0 ∧ e.dpsidz r z = 0) :=
  ⟨⟨fun _ _ => 0, fun _ _ => 1, fun _ _ => 3, fun _ _ => -4, fun _ => 1, 1, 1⟩, 2, 0, by norm_num, by norm_num⟩

example : profileRows [[(0 : ℚ), 1], [5, 9]] = some ([0, 1], [5, 9]) := rfl

theorem sqrtSpec_real : SqrtSpec Real.sqrt := fun x hx => ⟨Real.mul_self_sqrt hx, Real.sqrt_nonneg x⟩

example : SqrtSpec Real.sqrt := sqrtSpec_real

/-- a concrete non-degenerate field vector over ℝ: hypotheses of the basis theorems are satisfiable -/
example : ∃ p n : V3 ℝ, poloidalVector Real.sqrt ⟨3, 7, 4⟩ = some p ∧ surfaceNormal Real.sqrt ⟨3, 7, 4⟩ = some n ∧
    dot p n = 0 ∧ dot p p = 1 ∧ n = cross p toroidalVector := by
  obtain ⟨⟨p, hp⟩, ⟨n, hn⟩⟩ := basis_defined Real.sqrt (⟨3, 7, 4⟩ : V3 ℝ)
  obtain ⟨a, b, _, c, _, _⟩ := basis_orthonormal Real.sqrt sqrtSpec_real _ p n (by norm_num) hp hn
  exact ⟨p, n, hp, hn, c, a, normal_is_pol_cross_tor Real.sqrt _ p n hp hn⟩

/-- inside / outside both occur: ψN = 1/2 inside the polygon, ψN = 2 inside the polygon (excluded by ψN ≤ 1) -/
example : map2d (7 : ℚ) (fun x => 10 * x) (fun _ _ => 1) (fun _ _ => 1 / 2) 2 0 = 5 := by
  rw [map2d_cases, psiN_eq_max]; norm_num
example : map2d (7 : ℚ) (fun x => 10 * x) (fun _ _ => 1) (fun _ _ => 2) 2 0 = 7 := by
  rw [map2d_cases, psiN_eq_max]; norm_num
example : psiN (fun _ _ => (-3 : ℚ)) 2 0 = 0 := by rw [psiN_eq_max]; norm_num

/-- a rotation with `c² + s² = 1` over ℚ -/
example : ((3 : ℚ) / 5) * (3 / 5) + (4 / 5) * (4 / 5) = 1 := by norm_num

end Cherab.Props.C12
