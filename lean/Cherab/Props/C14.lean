import Cherab.Lemmas.CachingEval
import Mathlib.Algebra.Order.Ring.Rat

/-!
# C14 — caching functions are history-independent and interpolate the cached function

Property theorems about `Cherab/Model/Caching.lean` (transcribed from caching{1,2,3}d.pyx and utility.pyx).

clause of the property                         theorem(s)
---------------------------------------------  -----------------------------------------------------------------
value does not depend on earlier evaluations   `memo_transparent`, `history_independent`, `trace_refines_pure`,
                                               `cache_holds_function_values`, `calls_exact`, `repeat_served_from_cache`
                                               (generic in the `Spec`, hence 1-D/2-D/3-D)
a wrapped function that raises                 `raising_function_never_cached`, `recovery_transparent`,
                                               `failed_evaluation_stores_no_cell`
equals the wrapped function at every node      `interpolates_nodes_1d/2d/3d`
reproduces functions linear in each coordinate `reproduces_affine_1d`, `reproduces_multilinear_2d/3d`
O(h²) approximation                            not proved (checked by the search oracles only)
outside: raise or call through                 `outside_policy`, `outside_area_no_cell`, `outside_area_1d/2d/3d`
inside the area a cell is always found         `inside_area_is_cached`, `inside_area_is_cached_2d/3d`, `grid_never_degenerate`
function bounds only rescale                   `normalisation_cancels_1d/2d/3d`, `denormalisation_1d/2d/3d`,
                                               `value_normalisation_round_trip`
find_index                                     `find_index_spec`, `find_index_cases`, `find_index_unique`, `node_grid_sorted`
nonsingular constraint systems                 `system_nonsingular_1d/2d/3d`, `system_solvable_1d`
no LinAlgError over a field (1-D)              `ideal_solve_total_1d`, `inside_returns_value_1d`
                                               (2-D/3-D: `Props/C14Exist.lean`)

External functions are parameters: `ExtOK E` says `powi = (^)` and "when `solve` returns, the vector satisfies every
equation of the system" (numpy.linalg.solve, trusted; `ideal_solve_ok` shows the hypothesis is satisfiable, and
`system_nonsingular_*` that it determines the coefficients).
-/
namespace Cherab.Props.C14
set_option linter.unusedSectionVars false
open Cherab.Caching

section Memo
variable {α P ν κ C : Type} [DecidableEq ν] [DecidableEq κ]

/-- For any wrapped function `E.f` (pure), any history `ps` of evaluations — inside or outside
the caching area, in any order — and any point `p`, the value returned for `p` in the state reached after `ps` is
`evalPure p`, which does not mention the state.  Holds for every `Spec`, hence for Caching1D/2D/3D. -/
theorem memo_transparent (S : Spec α P ν κ C) (E : Env α P) (nbe : Bool) (ps : List P) (p : P) :
    (evalStep S E nbe (run S E nbe St.init ps) p).2.1 = evalPure S E nbe p :=
  (evalStep_spec S E nbe _ (run_inv S E nbe ps _ (inv_init S E)) p).2

/-- two different histories give the same value at `p` -/
theorem history_independent (S : Spec α P ν κ C) (E : Env α P) (nbe : Bool) (ps qs : List P) (p : P) :
    (evalStep S E nbe (run S E nbe St.init ps) p).2.1 = (evalStep S E nbe (run S E nbe St.init qs) p).2.1 := by
  rw [memo_transparent, memo_transparent]

/-- the cache only ever holds values of the wrapped function (normalised) at the nodes, and coefficient blocks built
from exactly those values -/
theorem cache_holds_function_values (S : Spec α P ν κ C) (E : Env α P) (nbe : Bool) (ps : List P) :
    (∀ u v, lookup u (run S E nbe St.init ps).data = some v →
        ∃ w, E.f (S.coord u) = some w ∧ E.isnan w = false ∧ v = E.norm w) ∧
    (∀ c co, lookup c (run S E nbe St.init ps).coeffs = some co →
        (S.stencil c).all (fun u => (E.f (S.coord u)).isSome) = true ∧
        S.build c ((S.stencil c).map (nodeVal S E)) = some co) :=
  run_inv S E nbe ps _ (inv_init S E)

/-- which calls the wrapped function receives (when it returns everywhere): none for a calculated cell; otherwise
exactly the not-yet-sampled nodes of the cell's stencil, in stencil order; outside: the point itself (pass-through) or
nothing (raise) -/
theorem calls_exact (S : Spec α P ν κ C) (E : Env α P) (nbe : Bool) (st : St α ν κ C) (p : P)
    (hnd : ∀ c, (S.stencil c).Nodup) (htot : ∀ q, (E.f q).isSome) :
    (evalStep S E nbe st p).2.2 =
      match S.locate p with
      | none => if nbe then [p] else []
      | some c =>
        match lookup c st.coeffs with
        | some _ => []
        | none => ((S.stencil c).filter fun u => (lookup u st.data).isNone).map S.coord := by
  cases hloc : S.locate p with
  | none => rw [evalStep_none S E nbe st hloc]
  | some c =>
    simp only []
    cases hco : lookup c st.coeffs with
    | some co => rw [evalStep_hit S E nbe st hloc hco]
    | none =>
      obtain ⟨o, cs, he, -⟩ := evalStep_miss S E nbe st hloc hco
      rw [he]
      exact sample_calls S E _ (hnd c) htot _

/-- Where `locate` finds no cell the result is `ValueError`, or with `no_boundary_error` whatever
the wrapped function itself does at `p` (value or exception); the cache is not touched. -/
theorem outside_policy (S : Spec α P ν κ C) (E : Env α P) (nbe : Bool) (st : St α ν κ C) (p : P)
    (h : S.locate p = none) :
    evalStep S E nbe st p =
      (st, if nbe then (match E.f p with | some v => .val v | none => .fraise) else .raise, if nbe then [p] else []) :=
  evalStep_none S E nbe st h

/-- **a raising wrapped function.**  If the wrapped function raises at some node of the cell's stencil the evaluation
raises — after any history, and however often it is repeated: the cell is never flagged as calculated and no
coefficient block (NaN or otherwise) is ever stored for it. -/
theorem raising_function_never_cached (S : Spec α P ν κ C) (E : Env α P) (nbe : Bool) (ps : List P) (p : P) (c : κ)
    (hc : S.locate p = some c) (u : ν) (hu : u ∈ S.stencil c) (hr : E.f (S.coord u) = none) :
    (evalStep S E nbe (run S E nbe St.init ps) p).2.1 = .fraise ∧
    lookup c (run S E nbe St.init ps).coeffs = none := by
  have hall : (S.stencil c).all (fun u => (E.f (S.coord u)).isSome) = false := by
    rw [List.all_eq_false]
    exact ⟨u, hu, by simp [hr]⟩
  constructor
  · rw [memo_transparent]
    simp [evalPure, hc, hall]
  · cases hl : lookup c (run S E nbe St.init ps).coeffs with
    | none => rfl
    | some co =>
      have := ((cache_holds_function_values S E nbe ps).2 c co hl).1
      rw [hall] at this; cases this

/-- **recovery.**  The state reached under one behaviour of the wrapped function (`E₁`, e.g. raising at some nodes) is
consistent with any behaviour `E₂` that agrees with `E₁` wherever `E₁` returned: evaluating afterwards under `E₂` gives
exactly what a fresh cache would give under `E₂`. -/
theorem recovery_transparent (S : Spec α P ν κ C) (E₁ E₂ : Env α P) (nbe : Bool)
    (hsame : E₁.isnan = E₂.isnan ∧ E₁.nan = E₂.nan ∧ E₁.norm = E₂.norm)
    (hagree : ∀ q w, E₁.f q = some w → E₂.f q = some w) (ps qs : List P) (p : P) :
    (evalStep S E₂ nbe (run S E₂ nbe (run S E₁ nbe St.init ps) qs) p).2.1 = evalPure S E₂ nbe p := by
  obtain ⟨h1, h2, h3⟩ := hsame
  have hinv1 := run_inv S E₁ nbe ps _ (inv_init S E₁)
  have hinv2 : Inv S E₂ (run S E₁ nbe St.init ps) := by
    constructor
    · intro u v h
      obtain ⟨w, a, b, c⟩ := hinv1.1 u v h
      exact ⟨w, hagree _ _ a, h1 ▸ b, h3 ▸ c⟩
    · intro c co h
      obtain ⟨a, b⟩ := hinv1.2 c co h
      -- at the nodes of a calculated cell `E₁` returned, so `E₂` returns the same there
      have hw : ∀ u ∈ S.stencil c, ∃ w, E₁.f (S.coord u) = some w ∧ E₂.f (S.coord u) = some w := fun u hu =>
        (Option.isSome_iff_exists.mp (List.all_eq_true.mp a u hu)).imp fun w hw => ⟨hw, hagree _ _ hw⟩
      refine ⟨List.all_eq_true.mpr fun u hu => ?_, b ▸ congrArg _ (List.map_congr_left fun u hu => ?_)⟩
      · obtain ⟨w, -, hw2⟩ := hw u hu
        rw [hw2]; rfl
      · obtain ⟨w, hw1, hw2⟩ := hw u hu
        simp only [nodeVal, hw1, hw2, h1, h2, h3]
  exact (evalStep_spec S E₂ nbe _ (run_inv S E₂ nbe qs _ hinv2) p).2

end Memo

section Find
variable {α : Type} [Field α] [LinearOrder α] [IsStrictOrderedRing α]

/-- `x 0 < v < x top` ⇒ the index returned brackets `v`.  (Termination: the model's loop carries
fuel `top`; `bisect_spec` shows the fuel is never exhausted before `top − bottom = 1`.) -/
theorem find_index_spec (x : Nat → α) (top : Nat) (v : α) (h0 : x 0 < v) (ht : v < x top) :
    ∃ i : Nat, findIndex x top v 0 = (i : Int) ∧ i < top ∧ x i ≤ v ∧ v < x (i + 1) :=
  findIndex_bracket x top v h0 ht

/-- all five exits of `find_index` (padding 0): on the ends, below, above, bracketed -/
theorem find_index_cases (x : Nat → α) (top : Nat) (v : α) :
    (v = x 0 ∧ findIndex x top v 0 = 0) ∨
    (v ≠ x 0 ∧ v = x top ∧ findIndex x top v 0 = (top : Int) - 1) ∨
    (v < x 0 ∧ findIndex x top v 0 = -2) ∨
    (x top < v ∧ x 0 < v ∧ findIndex x top v 0 = (top : Int) + 1) ∨
    (x 0 < v ∧ v < x top ∧ findIndex x top v 0 = (bisect x v top 0 top : Nat)) :=
  findIndex_cases x top v

/-- on an increasing array the bracketing index is unique, so `find_index` returns *the* cell -/
theorem find_index_unique (ax : Axis α) (hs : ax.Sorted) (p : α) (i : Nat) (h1 : 1 ≤ i) (h2 : i + 2 ≤ ax.top)
    (hl : ax.dom i ≤ p) (hu : p < ax.dom (i + 1)) : cellOf ax p = some i :=
  cellOf_of_bracket ax hs p i h1 h2 hl hu

/-- the node array built by the constructor is strictly increasing -/
theorem node_grid_sorted (trunc : α → Nat) (mn mx dx : α) (h : mn < mx) (hd : EPS < dx) :
    (mkAxis trunc mn mx dx).Sorted := mkAxis_sorted trunc mn mx dx h hd

/-- every point of the caching area `[mn, mx]` lies in a cell (no exception inside the area) -/
theorem inside_area_is_cached (trunc : α → Nat) (mn mx dx : α) (h : mn < mx) (hd : EPS < dx) (p : α)
    (h1 : mn ≤ p) (h2 : p ≤ mx) : ∃ i, cellOf (mkAxis trunc mn mx dx) p = some i := by
  obtain ⟨a, b⟩ := mkAxis_covers trunc mn mx dx p h1 h2
  exact cellOf_inside _ (mkAxis_sorted trunc mn mx dx h hd) (mkAxis_top trunc mn mx dx) p a b

/-- beyond the ε-extended range no cell is found … -/
theorem outside_area_no_cell (trunc : α → Nat) (mn mx dx : α) (h : mn < mx) (hd : EPS < dx) (p : α)
    (ho : p < mn - EPS ∨ mx + EPS ≤ p) : cellOf (mkAxis trunc mn mx dx) p = none := by
  have hn := nNodes_ge trunc mn mx dx
  apply cellOf_outside _ (mkAxis_sorted trunc mn mx dx h hd)
  simp only [mkAxis, Nat.add_sub_cancel]
  rw [nodeAt_one _ _ _ _ hn, nodeAt_last _ _ _ _ hn]
  exact ho

/-- … so Caching1D raises, or calls the wrapped function directly, without touching the cache -/
theorem outside_area_1d (E : Ext α) (trunc : α → Nat) (mn mx dx : α) (h : mn < mx) (hd : EPS < dx) (nm : Norm α)
    (En : Env α α) (nbe : Bool) (st : St α Nat Nat (Nat → α)) (p : α) (ho : p < mn - EPS ∨ mx + EPS ≤ p) :
    evalStep (spec1 E (mkAxis trunc mn mx dx) nm) En nbe st p =
      (st, if nbe then (match En.f p with | some v => .val v | none => .fraise) else .raise, if nbe then [p] else []) :=
  outside_policy _ En nbe st p (outside_area_no_cell trunc mn mx dx h hd p ho)

/-- in 2-D / 3-D one coordinate outside suffices -/
theorem outside_area_2d (E : Ext α) (ax ay : Axis α) (nm : Norm α) (En : Env α (α × α)) (nbe : Bool)
    (st : St α (Nat × Nat) (Nat × Nat) (Nat → α)) (p : α × α) (ho : cellOf ax p.1 = none ∨ cellOf ay p.2 = none) :
    evalStep (spec2 E ax ay nm) En nbe st p = (st, if nbe then (match En.f p with | some v => .val v | none => .fraise) else .raise, if nbe then [p] else []) := by
  apply outside_policy
  show cellOf2 ax ay p = none
  unfold cellOf2
  rcases ho with h | h
  · rw [h]
  · rw [h]; cases cellOf ax p.1 <;> rfl

theorem outside_area_3d (E : Ext α) (ax ay az : Axis α) (nm : Norm α) (En : Env α (α × α × α)) (nbe : Bool)
    (st : St α (Nat × Nat × Nat) (Nat × Nat × Nat) (Nat → α)) (p : α × α × α)
    (ho : cellOf ax p.1 = none ∨ cellOf ay p.2.1 = none ∨ cellOf az p.2.2 = none) :
    evalStep (spec3 E ax ay az nm) En nbe st p =
      (st, if nbe then (match En.f p with | some v => .val v | none => .fraise) else .raise, if nbe then [p] else []) := by
  apply outside_policy
  show cellOf3 ax ay az p = none
  unfold cellOf3
  rcases ho with h | h | h
  · rw [h]
  · rw [h]; cases cellOf ax p.1 <;> rfl
  · rw [h]; cases cellOf ax p.1 <;> cases cellOf ay p.2.1 <;> rfl

end Find

section Systems
variable {α : Type} [Field α] [LinearOrder α] [IsStrictOrderedRing α]

/-- 1-D: two solutions of a cell's system coincide (explicit elimination) … -/
theorem system_nonsingular_1d (ax : Axis α) (i : Nat) (d c c' : Nat → α) (hne : ax.xn i ≠ ax.xn (i + 1))
    (h : IsSol1 ax i d c) (h' : IsSol1 ax i d c') : ∀ k, k < 4 → c k = c' k := unique1 ax i d c c' hne h h'

/-- … and one exists: the cubic Hermite polynomial with central-difference slopes -/
theorem system_solvable_1d (ax : Axis α) (i : Nat) (d : Nat → α) (hne : ax.xn i ≠ ax.xn (i + 1)) :
    ∃ c, IsSol1 ax i d c := exists1 ax i d hne

/-- 2-D: the 16×16 system is the tensor product of two 1-D systems, hence nonsingular -/
theorem system_nonsingular_2d (ax ay : Axis α) (cell : Nat × Nat) (D : Nat → Nat → α) (c c' : Nat → α)
    (hx : ax.xn cell.1 ≠ ax.xn (cell.1 + 1)) (hy : ay.xn cell.2 ≠ ay.xn (cell.2 + 1))
    (h : IsSol2 ax ay cell D c) (h' : IsSol2 ax ay cell D c') : ∀ k, k < 16 → c k = c' k :=
  unique2 ax ay cell D c c' hx hy h h'

/-- 3-D: likewise for the 64×64 system -/
theorem system_nonsingular_3d (ax ay az : Axis α) (cell : Nat × Nat × Nat) (D : Nat → Nat → Nat → α) (c c' : Nat → α)
    (hx : ax.xn cell.1 ≠ ax.xn (cell.1 + 1)) (hy : ay.xn cell.2.1 ≠ ay.xn (cell.2.1 + 1))
    (hz : az.xn cell.2.2 ≠ az.xn (cell.2.2 + 1))
    (h : IsSol3 ax ay az cell D c) (h' : IsSol3 ax ay az cell D c') : ∀ k, k < 64 → c k = c' k :=
  unique3 ax ay az cell D c c' hx hy hz h h'

end Systems

/-! ## Caching1D / 2D / 3D: nodes, affine functions, function bounds

In each dimension the three statements rest on `evalPure*_sol`: the returned value is the polynomial of any solution of
the cell's system for the raw function values. -/
section OneD
variable {α : Type} [Field α] [LinearOrder α] [IsStrictOrderedRing α]

theorem interpolates_nodes_1d (E : Ext α) (hE : ExtOK E) (ax : Axis α) (hax : AxisOK ax) (nm : Norm α)
    (hnm : NormOK nm) (f : α → α) (nbe : Bool) (i : Nat) (h1 : 1 ≤ i) (h2 : i + 2 ≤ ax.top) (v : α)
    (h : evalPure (spec1 E ax nm) (envOf f nm) nbe (ax.dom i) = .val v) : v = f (ax.dom i) := by
  obtain ⟨i', rfl⟩ := Nat.exists_eq_add_of_le' h1
  obtain ⟨c, hsol, hv⟩ := evalPure1_sol E hE ax hax nm hnm f nbe _ v i' (hax.cellOf_dom h1 h2) h
  rw [hv c hsol, ← hax.xn_eq, ← ev_false]
  exact (isSol1_iff _ _ _ _).mp hsol 0 Nat.two_pos false

theorem reproduces_affine_1d (E : Ext α) (hE : ExtOK E) (ax : Axis α) (hax : AxisOK ax) (nm : Norm α)
    (hnm : NormOK nm) (f : α → α) (a b : α) (hf : ∀ x, f x = a + b * x) (nbe : Bool) (p : α) (i : Nat)
    (hc : cellOf ax p = some i) (v : α)
    (h : evalPure (spec1 E ax nm) (envOf f nm) nbe p = .val v) : v = a + b * p := by
  obtain ⟨i', rfl, hi⟩ := cellOf_succ ax p i hc
  obtain ⟨-, -, hv⟩ := evalPure1_sol E hE ax hax nm hnm f nbe _ v i' hc h
  have hd := hax.dinv_ne
  -- `a + b·x` in the normalised coordinate `t = (x − xmin)·dinv`
  have hcand := affine_solves1 ax i' (a + b * ax.xmin) (b / ax.dinv) hax.xn_ne hi
  rw [hv _ (isSol1_congr ax (i' + 1) _ _ _ (fun k _ => by rw [hf, hax.dom_eq]; field_simp; ring) hcand)]
  simp [poly1, aff]
  field_simp
  ring

theorem normalisation_cancels_1d (E : Ext α) (hE : ExtOK E) (ax : Axis α) (hax : AxisOK ax) (nm nm' : Norm α)
    (hnm : NormOK nm) (hnm' : NormOK nm') (f : α → α) (nbe : Bool) (p : α) (v v' : α)
    (h : evalPure (spec1 E ax nm) (envOf f nm) nbe p = .val v)
    (h' : evalPure (spec1 E ax nm') (envOf f nm') nbe p = .val v') : v = v' := by
  cases hc : cellOf ax p with
  | none => exact Out.val.inj ((h.symm.trans (evalPure_outside _ _ f nm nm' nbe hc hc)).trans h')
  | some i =>
    obtain ⟨i', rfl, -⟩ := cellOf_succ ax p i hc
    obtain ⟨-, -, hv⟩ := evalPure1_sol E hE ax hax nm hnm f nbe _ v i' hc h
    obtain ⟨c', hsol', hv'⟩ := evalPure1_sol E hE ax hax nm' hnm' f nbe _ v' i' hc h'
    rw [hv c' hsol', hv' c' hsol']

end OneD

section TwoD
variable {α : Type} [Field α] [LinearOrder α] [IsStrictOrderedRing α]

theorem interpolates_nodes_2d (E : Ext α) (hE : ExtOK E) (ax ay : Axis α) (hax : AxisOK ax) (hay : AxisOK ay)
    (nm : Norm α) (hnm : NormOK nm) (f : α × α → α) (nbe : Bool) (i j : Nat)
    (hi1 : 1 ≤ i) (hi2 : i + 2 ≤ ax.top) (hj1 : 1 ≤ j) (hj2 : j + 2 ≤ ay.top) (v : α)
    (h : evalPure (spec2 E ax ay nm) (envOf f nm) nbe (ax.dom i, ay.dom j) = .val v) :
    v = f (ax.dom i, ay.dom j) := by
  obtain ⟨i', rfl⟩ := Nat.exists_eq_add_of_le' hi1
  obtain ⟨j', rfl⟩ := Nat.exists_eq_add_of_le' hj1
  obtain ⟨c, hsol, hv⟩ := evalPure2_sol E hE ax ay hax hay nm hnm f nbe _ v _ _
    (cellOf2_dom hax hay hi1 hi2 hj1 hj2) h
  rw [hv c hsol, ← hax.xn_eq, ← hay.xn_eq, ← ev2_false]
  exact (isSol2_iff _ _ _ _ _).mp hsol 0 0 Nat.two_pos Nat.two_pos false false

theorem reproduces_multilinear_2d (E : Ext α) (hE : ExtOK E) (ax ay : Axis α) (hax : AxisOK ax) (hay : AxisOK ay)
    (nm : Norm α) (hnm : NormOK nm) (f : α × α → α) (m : Nat → Nat → α) (hf : ∀ x y, f (x, y) = ml2 m x y)
    (nbe : Bool) (p : α × α) (cell : Nat × Nat) (hc : cellOf2 ax ay p = some cell) (v : α)
    (h : evalPure (spec2 E ax ay nm) (envOf f nm) nbe p = .val v) : v = f p := by
  obtain ⟨hcx, hcy⟩ := (cellOf2_eq_some ax ay p cell).mp hc
  obtain ⟨i, j⟩ := cell
  obtain ⟨i', rfl, hi⟩ := cellOf_succ ax _ i hcx
  obtain ⟨j', rfl, hj⟩ := cellOf_succ ay _ j hcy
  obtain ⟨-, -, hv⟩ := evalPure2_sol E hE ax ay hax hay nm hnm f nbe _ v _ _ hc h
  have hcand := multilinear_solves2 ax ay i' j' (reparam2 m ax ay) hax.xn_ne hi hay.xn_ne hj
  obtain ⟨px, py⟩ := p
  rw [hv _ (isSol2_congr _ _ _ _ _ _ (fun a b _ _ => by
      rw [hax.xn_eq, hay.xn_eq, ml2_reparam m ax ay hax.dinv_ne hay.dinv_ne, hf]) hcand),
    poly2_embed, ml2_reparam m ax ay hax.dinv_ne hay.dinv_ne, hf]

theorem normalisation_cancels_2d (E : Ext α) (hE : ExtOK E) (ax ay : Axis α) (hax : AxisOK ax) (hay : AxisOK ay)
    (nm nm' : Norm α) (hnm : NormOK nm) (hnm' : NormOK nm') (f : α × α → α) (nbe : Bool) (p : α × α) (v v' : α)
    (h : evalPure (spec2 E ax ay nm) (envOf f nm) nbe p = .val v)
    (h' : evalPure (spec2 E ax ay nm') (envOf f nm') nbe p = .val v') : v = v' := by
  cases hc : cellOf2 ax ay p with
  | none => exact Out.val.inj ((h.symm.trans (evalPure_outside _ _ f nm nm' nbe hc hc)).trans h')
  | some cell =>
    obtain ⟨hcx, hcy⟩ := (cellOf2_eq_some ax ay p cell).mp hc
    obtain ⟨i, j⟩ := cell
    obtain ⟨i', rfl, -⟩ := cellOf_succ ax _ i hcx
    obtain ⟨j', rfl, -⟩ := cellOf_succ ay _ j hcy
    obtain ⟨-, -, hv⟩ := evalPure2_sol E hE ax ay hax hay nm hnm f nbe _ v _ _ hc h
    obtain ⟨c', hsol', hv'⟩ := evalPure2_sol E hE ax ay hax hay nm' hnm' f nbe _ v' _ _ hc h'
    rw [hv c' hsol', hv' c' hsol']

end TwoD

section ThreeD
variable {α : Type} [Field α] [LinearOrder α] [IsStrictOrderedRing α]

theorem interpolates_nodes_3d (E : Ext α) (hE : ExtOK E) (ax ay az : Axis α) (hax : AxisOK ax)
    (hay : AxisOK ay) (haz : AxisOK az) (nm : Norm α) (hnm : NormOK nm)
    (f : α × α × α → α) (nbe : Bool) (i j k : Nat)
    (hi1 : 1 ≤ i) (hi2 : i + 2 ≤ ax.top) (hj1 : 1 ≤ j) (hj2 : j + 2 ≤ ay.top) (hk1 : 1 ≤ k) (hk2 : k + 2 ≤ az.top)
    (v : α) (h : evalPure (spec3 E ax ay az nm) (envOf f nm) nbe (ax.dom i, ay.dom j, az.dom k) = .val v) :
    v = f (ax.dom i, ay.dom j, az.dom k) := by
  obtain ⟨i', rfl⟩ := Nat.exists_eq_add_of_le' hi1
  obtain ⟨j', rfl⟩ := Nat.exists_eq_add_of_le' hj1
  obtain ⟨k', rfl⟩ := Nat.exists_eq_add_of_le' hk1
  obtain ⟨c, hsol, hv⟩ := evalPure3_sol E hE ax ay az hax hay haz nm hnm f nbe _ v _ _ _
    (cellOf3_dom hax hay haz hi1 hi2 hj1 hj2 hk1 hk2) h
  rw [hv c hsol, ← hax.xn_eq, ← hay.xn_eq, ← haz.xn_eq, ← ev3_false]
  exact (isSol3_iff _ _ _ _ _ _).mp hsol 0 0 0 Nat.two_pos Nat.two_pos Nat.two_pos false false false

theorem reproduces_multilinear_3d (E : Ext α) (hE : ExtOK E) (ax ay az : Axis α) (hax : AxisOK ax)
    (hay : AxisOK ay) (haz : AxisOK az) (nm : Norm α) (hnm : NormOK nm)
    (f : α × α × α → α) (m : Nat → Nat → Nat → α) (hf : ∀ x y z, f (x, y, z) = ml3 m x y z)
    (nbe : Bool) (p : α × α × α) (cell : Nat × Nat × Nat) (hc : cellOf3 ax ay az p = some cell) (v : α)
    (h : evalPure (spec3 E ax ay az nm) (envOf f nm) nbe p = .val v) : v = f p := by
  obtain ⟨hcx, hcy, hcz⟩ := (cellOf3_eq_some ax ay az p cell).mp hc
  obtain ⟨i, j, k⟩ := cell
  obtain ⟨i', rfl, hi⟩ := cellOf_succ ax _ i hcx
  obtain ⟨j', rfl, hj⟩ := cellOf_succ ay _ j hcy
  obtain ⟨k', rfl, hk⟩ := cellOf_succ az _ k hcz
  obtain ⟨-, -, hv⟩ := evalPure3_sol E hE ax ay az hax hay haz nm hnm f nbe _ v _ _ _ hc h
  have hcand :=
    multilinear_solves3 ax ay az i' j' k' (reparam3 m ax ay az) hax.xn_ne hi hay.xn_ne hj haz.xn_ne hk
  obtain ⟨px, py, pz⟩ := p
  rw [hv _ (isSol3_congr _ _ _ _ _ _ _ (fun a b cc _ _ _ => by
      rw [hax.xn_eq, hay.xn_eq, haz.xn_eq, ml3_reparam m ax ay az hax.dinv_ne hay.dinv_ne haz.dinv_ne, hf]) hcand),
    poly3_embed, ml3_reparam m ax ay az hax.dinv_ne hay.dinv_ne haz.dinv_ne, hf]

theorem normalisation_cancels_3d (E : Ext α) (hE : ExtOK E) (ax ay az : Axis α) (hax : AxisOK ax)
    (hay : AxisOK ay) (haz : AxisOK az) (nm nm' : Norm α) (hnm : NormOK nm) (hnm' : NormOK nm')
    (f : α × α × α → α) (nbe : Bool) (p : α × α × α) (v v' : α)
    (h : evalPure (spec3 E ax ay az nm) (envOf f nm) nbe p = .val v)
    (h' : evalPure (spec3 E ax ay az nm') (envOf f nm') nbe p = .val v') : v = v' := by
  cases hc : cellOf3 ax ay az p with
  | none => exact Out.val.inj ((h.symm.trans (evalPure_outside _ _ f nm nm' nbe hc hc)).trans h')
  | some cell =>
    obtain ⟨hcx, hcy, hcz⟩ := (cellOf3_eq_some ax ay az p cell).mp hc
    obtain ⟨i, j, k⟩ := cell
    obtain ⟨i', rfl, -⟩ := cellOf_succ ax _ i hcx
    obtain ⟨j', rfl, -⟩ := cellOf_succ ay _ j hcy
    obtain ⟨k', rfl, -⟩ := cellOf_succ az _ k hcz
    obtain ⟨-, -, hv⟩ := evalPure3_sol E hE ax ay az hax hay haz nm hnm f nbe _ v _ _ _ hc h
    obtain ⟨c', hsol', hv'⟩ := evalPure3_sol E hE ax ay az hax hay haz nm' hnm' f nbe _ v' _ _ _ hc h'
    rw [hv c' hsol', hv' c' hsol']

end ThreeD

/-! ## coordinate denormalisation: the stored polynomial is the normalised one composed with the normalisation -/
section Denorm
variable {α : Type} [Field α] [LinearOrder α] [IsStrictOrderedRing α]

theorem denormalisation_1d (E : Ext α) (hp : ∀ x n, E.powi x n = x ^ n) (ax : Axis α) (nm : Norm α) (c : Nat → α) (p : α) :
    poly1 (finish1 E ax nm c) p = nm.delta * poly1 c ((p - ax.xmin) * ax.dinv) + nm.dmin := denorm1 E hp ax nm c p

theorem denormalisation_2d (E : Ext α) (hp : ∀ x n, E.powi x n = x ^ n) (ax ay : Axis α) (nm : Norm α) (c : Nat → α)
    (p : α × α) :
    poly2 (finish2 E ax ay nm c) p =
      nm.delta * poly2 c ((p.1 - ax.xmin) * ax.dinv, (p.2 - ay.xmin) * ay.dinv) + nm.dmin := denorm2 E hp ax ay nm c p

theorem denormalisation_3d (E : Ext α) (hp : ∀ x n, E.powi x n = x ^ n) (ax ay az : Axis α) (nm : Norm α)
    (c : Nat → α) (p : α × α × α) :
    poly3 (finish3 E ax ay az nm c) p =
      nm.delta * poly3 c ((p.1 - ax.xmin) * ax.dinv, (p.2.1 - ay.xmin) * ay.dinv, (p.2.2 - az.xmin) * az.dinv)
        + nm.dmin := denorm3 E hp ax ay az nm c p

end Denorm

section Traces
variable {α P ν κ C : Type} [DecidableEq ν] [DecidableEq κ]

/-- the outputs produced by evaluating a sequence of points one after the other -/
def outs (S : Spec α P ν κ C) (E : Env α P) (nbe : Bool) : St α ν κ C → List P → List (Out α)
  | _, [] => []
  | st, p :: ps => (evalStep S E nbe st p).2.1 :: outs S E nbe (evalStep S E nbe st p).1 ps

/-- **trace refinement.**  Any evaluation sequence on the caching object yields, output by output, what memo-free
evaluation yields (values, ValueErrors, LinAlgErrors and wrapped-function exceptions alike).  Generic in the `Spec`:
Caching1D, 2D and 3D. -/
theorem trace_refines_pure (S : Spec α P ν κ C) (E : Env α P) (nbe : Bool) (ps : List P) :
    outs S E nbe St.init ps = ps.map (evalPure S E nbe) := by
  suffices ∀ st : St α ν κ C, Inv S E st → outs S E nbe st ps = ps.map (evalPure S E nbe) from this _ (inv_init S E)
  induction ps with
  | nil => intro st _; rfl
  | cons p ps ih =>
    intro st h
    obtain ⟨h1, h2⟩ := evalStep_spec S E nbe st h p
    simp only [outs, List.map_cons, h2, ih _ h1]

example : outs (spec1 (⟨fun _ _ => none, fun x n => x ^ n⟩ : Ext ℚ) (mkAxis (fun _ => 3) 0 1 1) (mkNorm none))
    (envOf (fun x => x) (mkNorm none)) false St.init [5, 7] = [.raise, .raise] := by
  have hc : ∀ p : ℚ, 1 + EPS ≤ p → (spec1 (⟨fun _ _ => none, fun x n => x ^ n⟩ : Ext ℚ) (mkAxis (fun _ => 3) 0 1 1)
      (mkNorm none)).locate p = none := fun p hp =>
    outside_area_no_cell (fun _ : ℚ => 3) 0 1 1 (by norm_num) (by unfold EPS; norm_num) p (Or.inr hp)
  rw [trace_refines_pure, List.map_cons, List.map_cons, List.map_nil,
    evalPure_none _ _ _ (hc 5 (by unfold EPS; norm_num)), evalPure_none _ _ _ (hc 7 (by unfold EPS; norm_num))]
  rfl

/-- **caching takes place.**  Once an evaluation at `p` inside a cell has returned a value, evaluating `p` again is
served from the cache: no call to the wrapped function, the state is unchanged, the same value. -/
theorem repeat_served_from_cache (S : Spec α P ν κ C) (E : Env α P) (nbe : Bool) (st : St α ν κ C) (p : P) (c : κ)
    (v : α) (hc : S.locate p = some c) (h : (evalStep S E nbe st p).2.1 = .val v) :
    evalStep S E nbe (evalStep S E nbe st p).1 p = ((evalStep S E nbe st p).1, .val v, []) := by
  cases hl : lookup c st.coeffs with
  | some co =>
    rw [evalStep_hit S E nbe st hc hl] at h ⊢
    cases h
    exact evalStep_hit S E nbe st hc hl
  | none =>
    obtain ⟨o, cs, he, ⟨co, -, -, rfl, rfl⟩ | ⟨-, -, rfl, -⟩ | ⟨-, rfl, -⟩⟩ := evalStep_miss S E nbe st hc hl
    · -- the block just stored is found by the second evaluation
      rw [he] at h ⊢
      cases h
      exact evalStep_hit S E nbe _ hc (lookup_cons_self _ _ _)
    · rw [he] at h; cases h
    · rw [he] at h; cases h

/-- **a failed evaluation stores no cell.**  Whatever goes wrong (out of range, `solve` raising, the wrapped function
raising), the set of calculated cells and their coefficient blocks is exactly what it was. -/
theorem failed_evaluation_stores_no_cell (S : Spec α P ν κ C) (E : Env α P) (nbe : Bool) (st : St α ν κ C) (p : P)
    (h : ∀ v, (evalStep S E nbe st p).2.1 ≠ .val v) : (evalStep S E nbe st p).1.coeffs = st.coeffs := by
  cases hloc : S.locate p with
  | none => rw [evalStep_none S E nbe st hloc]
  | some c =>
    cases hl : lookup c st.coeffs with
    | some co => rw [evalStep_hit S E nbe st hloc hl]
    | none =>
      obtain ⟨o, cs, he, ⟨co, -, -, rfl, -⟩ | ⟨-, -, -, rfl⟩ | ⟨-, -, rfl⟩⟩ := evalStep_miss S E nbe st hloc hl
      · exact absurd (by rw [he]) (h _)
      · rw [he]
      · rw [he]

end Traces

section Areas
variable {α : Type} [Field α] [LinearOrder α] [IsStrictOrderedRing α]

/-- **degenerate resolutions.**  Whatever the resolution (larger than, equal to, or a tiny fraction of the extent; any
`int()`), the constructor's axis has at least two inner nodes, hence at least one cell, and is strictly increasing. -/
theorem grid_never_degenerate (trunc : α → Nat) (mn mx dx : α) (h : mn < mx) (hd : EPS < dx) :
    2 ≤ nNodes trunc mn mx dx ∧ 3 ≤ (mkAxis trunc mn mx dx).top ∧ (mkAxis trunc mn mx dx).Sorted ∧
    (∀ p, mn ≤ p → p ≤ mx → ∃ i, cellOf (mkAxis trunc mn mx dx) p = some i ∧ 1 ≤ i ∧ i + 2 ≤ (mkAxis trunc mn mx dx).top) := by
  refine ⟨nNodes_ge trunc mn mx dx, mkAxis_top trunc mn mx dx, mkAxis_sorted trunc mn mx dx h hd, ?_⟩
  intro p h1 h2
  obtain ⟨i, hi⟩ := inside_area_is_cached trunc mn mx dx h hd p h1 h2
  obtain ⟨a, b, _, _⟩ := cellOf_some _ p i hi
  exact ⟨i, hi, a, b⟩

example : ∃ i, cellOf (mkAxis (fun _ : ℚ => 0) 0 (1 / 5) (1 / 2)) (1 / 5 : ℚ) = some i :=
  inside_area_is_cached _ 0 (1 / 5) (1 / 2) (by norm_num) (by unfold EPS; norm_num) _ (by norm_num) (by norm_num)

/-- every point of the closed 2-D caching area lies in a cell, for any pair of resolutions -/
theorem inside_area_is_cached_2d (tx ty : α → Nat) (mnx mxx dx mny mxy dy : α) (hx : mnx < mxx) (hdx : EPS < dx)
    (hy : mny < mxy) (hdy : EPS < dy) (p : α × α) (h1 : mnx ≤ p.1) (h2 : p.1 ≤ mxx) (h3 : mny ≤ p.2) (h4 : p.2 ≤ mxy) :
    ∃ c, cellOf2 (mkAxis tx mnx mxx dx) (mkAxis ty mny mxy dy) p = some c := by
  obtain ⟨i, hi⟩ := inside_area_is_cached tx mnx mxx dx hx hdx p.1 h1 h2
  obtain ⟨j, hj⟩ := inside_area_is_cached ty mny mxy dy hy hdy p.2 h3 h4
  exact ⟨(i, j), (cellOf2_eq_some _ _ _ _).mpr ⟨hi, hj⟩⟩

/-- … and of the closed 3-D caching area -/
theorem inside_area_is_cached_3d (tx ty tz : α → Nat) (mnx mxx dx mny mxy dy mnz mxz dz : α)
    (hx : mnx < mxx) (hdx : EPS < dx) (hy : mny < mxy) (hdy : EPS < dy) (hz : mnz < mxz) (hdz : EPS < dz)
    (p : α × α × α) (h1 : mnx ≤ p.1) (h2 : p.1 ≤ mxx) (h3 : mny ≤ p.2.1) (h4 : p.2.1 ≤ mxy)
    (h5 : mnz ≤ p.2.2) (h6 : p.2.2 ≤ mxz) :
    ∃ c, cellOf3 (mkAxis tx mnx mxx dx) (mkAxis ty mny mxy dy) (mkAxis tz mnz mxz dz) p = some c := by
  obtain ⟨i, hi⟩ := inside_area_is_cached tx mnx mxx dx hx hdx p.1 h1 h2
  obtain ⟨j, hj⟩ := inside_area_is_cached ty mny mxy dy hy hdy p.2.1 h3 h4
  obtain ⟨k, hk⟩ := inside_area_is_cached tz mnz mxz dz hz hdz p.2.2 h5 h6
  exact ⟨(i, j, k), (cellOf3_eq_some _ _ _ _ _).mpr ⟨hi, hj, hk⟩⟩

/-- **value normalisation round trip**, for every `function_boundaries` argument including `min = max` (where
`data_delta` falls back to 1) and `None`: denormalising a normalised value gives the value back. -/
theorem value_normalisation_round_trip (b : Option (α × α)) (v : α) :
    (mkNorm b).delta * (mkNorm b).apply v + (mkNorm b).dmin = v := (mkNorm_ok b).unapply v

example : (mkNorm (some ((5 : ℚ), 5))).delta * (mkNorm (some ((5 : ℚ), 5))).apply 7 + (mkNorm (some ((5 : ℚ), 5))).dmin = 7 :=
  value_normalisation_round_trip _ _

end Areas

/-! ## the hypotheses are satisfiable (non-vacuity) -/
section NonVacuous
open Classical

/-- an ideal solver: returns a solution whenever one exists -/
noncomputable def idealExt (α : Type) [Field α] [LinearOrder α] [IsStrictOrderedRing α] : Ext α where
  solve := fun A b => if h : ∃ c, Solves A b c then some (Classical.choose h) else none
  powi := fun x n => x ^ n

theorem ideal_solve_ok {α : Type} [Field α] [LinearOrder α] [IsStrictOrderedRing α] : ExtOK (idealExt α) := by
  refine ⟨fun _ _ => rfl, ?_⟩
  intro A b c h
  simp only [idealExt] at h
  split at h
  · rename_i hex
    cases h
    exact Classical.choose_spec hex
  · cases h

theorem ideal_solve_total {α : Type} [Field α] [LinearOrder α] [IsStrictOrderedRing α] (A : List (List α)) (b : List α)
    (h : ∃ c, Solves A b c) : ((idealExt α).solve A b).isSome := by
  simp [idealExt, h]

/-- the ideal solver returns on every 1-D cell with distinct knots (`exists1`: the cell's system has a solution) -/
theorem ideal_solve_total_1d {α : Type} [Field α] [LinearOrder α] [IsStrictOrderedRing α] (ax : Axis α) (i : Nat)
    (d : Nat → α) (hne : ax.xn i ≠ ax.xn (i + 1)) :
    ((idealExt α).solve (system1 ax i d).1 (system1 ax i d).2).isSome :=
  ideal_solve_total _ _ ((exists1 ax i d hne).imp fun c hc => (solves_system1 ax i d c).mpr hc)

/-- **no LinAlgError in exact arithmetic (1-D).**  With a solver that returns whenever the system it is given has a
solution (what LAPACK does on a nonsingular matrix), every evaluation of Caching1D inside a cell returns a value —
together with `interpolates_nodes_1d` / `reproduces_affine_1d` the conclusions there become unconditional.  (2-D/3-D:
`inside_returns_value_2d/3d` in `Props/C14Exist.lean`.) -/
theorem inside_returns_value_1d {α : Type} [Field α] [LinearOrder α] [IsStrictOrderedRing α] (E : Ext α) (hT : ∀ A b, (∃ c, Solves A b c) → (E.solve A b).isSome)
    (ax : Axis α) (hax : AxisOK ax) (nm : Norm α) (f : α → α) (nbe : Bool) (p : α) (i : Nat)
    (hc : cellOf ax p = some i) : ∃ v, evalPure (spec1 E ax nm) (envOf f nm) nbe p = .val v := by
  obtain ⟨c0, hc0⟩ := exists1 ax i (fun k =>
    ((stencil1 i).map (nodeVal (spec1 E ax nm) (envOf f nm))).getD k 0) (hax.knot_ne hc)
  obtain ⟨c, hcs⟩ := Option.isSome_iff_exists.mp (hT _ _ ⟨c0, (solves_system1 ax i _ c0).mpr hc0⟩)
  exact ⟨_, evalPure_of_build _ _ nbe (show (spec1 E ax nm).locate p = some i from hc) (envOf_all _ _ _ _)
    (congrArg (Option.map (finish1 E ax nm)) hcs)⟩

example (ax : Axis ℚ) (hax : AxisOK ax) (nm : Norm ℚ) (f : ℚ → ℚ) (p : ℚ) (i : Nat) (hc : cellOf ax p = some i) :
    ∃ v, evalPure (spec1 (idealExt ℚ) ax nm) (envOf f nm) false p = .val v :=
  inside_returns_value_1d (idealExt ℚ) ideal_solve_total ax hax nm f false p i hc

/-- the constructor's guarantees hold for a concrete rational grid -/
example : AxisOK (mkAxis (fun _ : ℚ => 3) 0 1 (1 / 3)) :=
  mkAxis_ok _ _ _ _ (by norm_num) (by unfold EPS; norm_num)

example : NormOK (mkNorm (some ((2 : ℚ), 5))) := mkNorm_ok _
example : NormOK (mkNorm (some ((2 : ℚ), 2))) := mkNorm_ok _          -- equal bounds: data_delta falls back to 1
example : NormOK (mkNorm (none : Option (ℚ × ℚ))) := mkNorm_ok _

/-- `find_index` on a concrete array: all exits -/
example : findIndex (fun i => (i : ℚ) * (i : ℚ)) 4 (5 : ℚ) 0 = 2 := by decide +kernel
example : findIndex (fun i => (i : ℚ) * (i : ℚ)) 4 (0 : ℚ) 0 = 0 := by decide +kernel
example : findIndex (fun i => (i : ℚ) * (i : ℚ)) 4 (16 : ℚ) 0 = 3 := by decide +kernel
example : findIndex (fun i => (i : ℚ) * (i : ℚ)) 4 (-1 : ℚ) 0 = -2 := by decide +kernel
example : findIndex (fun i => (i : ℚ) * (i : ℚ)) 4 (17 : ℚ) 0 = 5 := by decide +kernel
example : findIndex (fun i => (i : ℚ) * (i : ℚ)) 4 (-1 : ℚ) 2 = -1 := by decide +kernel
example : findIndex (fun i => (i : ℚ) * (i : ℚ)) 4 (17 : ℚ) 2 = 4 := by decide +kernel

end NonVacuous

end Cherab.Props.C14
