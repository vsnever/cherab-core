import Cherab.Gen.InstrumentEdges
import Cherab.Props.C16

/-!
# C16 — obligations on the tables generated from the current source (`Cherab/Gen/InstrumentEdges.lean`)

`wf_*`: the translator understood every statement, ids are in range, `__init__` and every setter run to completion in
the interpreter, guards inside setters only test attributes that stay assigned.
`covered_*`: every attribute that is computed from a setter's parameter is reset or recomputed by that setter
(`Inval.Covered` for the protocol derived from the table) — with `settings_follow_parameters` this gives the
`*_settings_follow` statements: after any history of setter calls and reads, every derived setting equals the one of
an instrument built directly in the final configuration.
-/
namespace Cherab.Props.C16
open Cherab.Instruments Cherab.Gen.InstrumentEdges

/-- every concrete instrument class the translator found (a class added later is included automatically) -/
theorem covered_all : ∀ t ∈ allTables, wfB t = true ∧ Inval.Covered (protoOf t) := by
  have h : ∀ t ∈ allTables, wfB t = true ∧ coveredB t = true := by decide +kernel
  exact fun t ht => ⟨(h t ht).1, covered_of_check t (h t ht).2⟩

theorem wf_spectrometer : wfB spectrometer = true := (covered_all _ (by simp [allTables])).1
theorem wf_ct : wfB czernyTurnerSpectrometer = true := (covered_all _ (by simp [allTables])).1
theorem wf_polychromator : wfB polychromator = true := (covered_all _ (by simp [allTables])).1

theorem covered_spectrometer : Inval.Covered (protoOf spectrometer) := (covered_all _ (by simp [allTables])).2
theorem covered_ct : Inval.Covered (protoOf czernyTurnerSpectrometer) := (covered_all _ (by simp [allTables])).2
theorem covered_polychromator : Inval.Covered (protoOf polychromator) := (covered_all _ (by simp [allTables])).2

theorem spectrometer_settings_follow (ops : List (Inval.Op Nat Nat)) (c : Nat) :
    (Inval.step (protoOf spectrometer) (Inval.run (protoOf spectrometer) Inval.init ops) (.obs c)).2
      = (Inval.step (protoOf spectrometer)
          (freshAt (Inval.run (protoOf spectrometer) Inval.init ops).ver) (.obs c)).2 :=
  settings_follow_parameters _ covered_spectrometer ops c

theorem ct_settings_follow (ops : List (Inval.Op Nat Nat)) (c : Nat) :
    (Inval.step (protoOf czernyTurnerSpectrometer) (Inval.run (protoOf czernyTurnerSpectrometer) Inval.init ops) (.obs c)).2
      = (Inval.step (protoOf czernyTurnerSpectrometer)
          (freshAt (Inval.run (protoOf czernyTurnerSpectrometer) Inval.init ops).ver) (.obs c)).2 :=
  settings_follow_parameters _ covered_ct ops c

theorem polychromator_settings_follow (ops : List (Inval.Op Nat Nat)) (c : Nat) :
    (Inval.step (protoOf polychromator) (Inval.run (protoOf polychromator) Inval.init ops) (.obs c)).2
      = (Inval.step (protoOf polychromator)
          (freshAt (Inval.run (protoOf polychromator) Inval.init ops).ver) (.obs c)).2 :=
  settings_follow_parameters _ covered_polychromator ops c

/-- non-vacuity: the derived settings really depend on setters (the `deps` lists are not empty) -/
example : (allTables.all fun t => (List.range t.attrs.length).any fun c => decide (2 ≤ (depsOf t c).length)) = true := by
  decide +kernel

end Cherab.Props.C16
