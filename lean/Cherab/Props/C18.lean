import Cherab.Model.Laser
import Cherab.Model.Invalidation
import Mathlib.Tactic.Ring
import Mathlib.Tactic.Linarith
import Mathlib.Tactic.FieldSimp
import Mathlib.Tactic.NormNum
import Mathlib.Tactic.NormNum.OfScientific
import Mathlib.Tactic.Positivity
import Mathlib.Data.Rat.Floor
import Mathlib.Data.Rat.Cast.Lemmas
import Mathlib.Data.Rat.Cast.Order

/-!
# C18 — laser profiles and spectra (table-independent theorems)

Property theorems about `Cherab/Model/Laser.lean` for all inputs / histories, over an arbitrary ordered field
(`erf`, `exp`, `sqrt`, `π`, `c` are parameters).  The real-analysis statements (cross-section / volume integrals,
bin power = ∫ density) are in `Props/C18Real.lean`; polarisation is in `Props/C18Polar.lean`; the statements about the
*generated* class tables are in `Props/C18Table*.lean` (those about polarisation at the end of `Props/C18Polar.lean`).
-/
namespace Cherab.Props.C18
set_option linter.unusedSectionVars false
set_option linter.unusedVariables false
open Cherab.Laser

section Field
variable {α : Type} [Field α] [LinearOrder α] [IsStrictOrderedRing α]

theorem two_eq : (two : α) = 2 := by simp [two]

/-! ## generate_segmented_cylinder: the segments tile `[0, L]` exactly once -/

/-- closed form of the segment list for any `n ≥ 0`: `max 1 n` cylinders, the i-th at `i·(L/len)` of height `L/len` -/
theorem segments_closed_form (n : Int) (hn : 0 ≤ n) (r L : α) :
    ∃ segs, segments n r L = some segs ∧ segs.length = max 1 n.toNat ∧
      ∀ i (h : i < segs.length), segs[i].z0 = (i : α) * (L / (segs.length : α)) ∧
        segs[i].height = L / (segs.length : α) ∧ segs[i].radius = r := by
  unfold segments
  by_cases h1 : n > 1
  · simp only [h1, if_true]
    refine ⟨_, rfl, ?_, ?_⟩
    · simp; omega
    · intro i h
      simp at h ⊢
  · simp only [h1, if_false, hn, if_true]
    refine ⟨_, rfl, ?_, ?_⟩
    · simp; omega
    · intro i h
      simp at h
      subst h
      simp

/-- the tiling does not depend on how the segment count was obtained: for ANY count `n ≥ 0` and any `L > 0` the
segments start at 0, are adjacent, end at `L`, have equal positive height and radius `r` -/
theorem segments_tile_any_count (n : Int) (hn : 0 ≤ n) (r L : α) (hL : 0 < L) :
    ∃ segs, segments n r L = some segs ∧ segs.length = max 1 n.toNat ∧
      (∀ h : 0 < segs.length, segs[0].z0 = 0) ∧
      (∀ i (h : i + 1 < segs.length), segs[i + 1].z0 = segs[i].z0 + segs[i].height) ∧
      (∀ h : segs.length - 1 < segs.length, segs[segs.length - 1].z0 + segs[segs.length - 1].height = L) ∧
      (∀ i (h : i < segs.length), segs[i].height = L / (segs.length : α) ∧ 0 < segs[i].height ∧ segs[i].radius = r) := by
  obtain ⟨segs, hs, hlen, hform⟩ := segments_closed_form n hn r L
  have hpos : 0 < segs.length := by rw [hlen]; omega
  have hposα : (0 : α) < (segs.length : α) := Nat.cast_pos.mpr hpos
  refine ⟨segs, hs, hlen, fun h => ?_, fun i h => ?_, fun h => ?_, fun i h => ?_⟩
  · rw [(hform 0 h).1, Nat.cast_zero, zero_mul]
  · rw [(hform (i + 1) h).1, (hform i (by omega)).1, (hform i (by omega)).2.1, Nat.cast_add_one, add_one_mul]
  · rw [(hform _ h).1, (hform _ h).2.1, ← add_one_mul, ← Nat.cast_add_one, Nat.sub_add_cancel hpos,
      mul_div_cancel₀ _ hposα.ne']
  · exact ⟨(hform i h).2.1, (hform i h).2.1 ▸ div_pos hL hposα, (hform i h).2.2⟩

example : ∃ segs, segments 7 (1 : ℚ) 3 = some segs ∧ segs.length = 7 := by
  obtain ⟨segs, h, hl, _⟩ := segments_tile_any_count (7 : Int) (by decide) (1 : ℚ) 3 (by norm_num)
  exact ⟨segs, h, by simpa using hl⟩

variable [FloorRing α]

theorem floor_count_nonneg (r L : α) (hr : 0 < r) (hL : 0 < L) : 0 ≤ ⌊L / (two * r)⌋ :=
  Int.floor_nonneg.mpr (by rw [two_eq]; positivity)

/-- **segments_tile**: for all `r, L > 0` (including `L < 2r`) the generated segments start at 0, are pairwise
adjacent, end at `L`, have equal positive height and radius `r`. -/
theorem segments_tile (r L : α) (hr : 0 < r) (hL : 0 < L) :
    ∃ segs, segments ⌊L / (two * r)⌋ r L = some segs ∧ 0 < segs.length ∧
      (∀ h : 0 < segs.length, segs[0].z0 = 0) ∧
      (∀ i (h : i + 1 < segs.length), segs[i + 1].z0 = segs[i].z0 + segs[i].height) ∧
      (∀ h : segs.length - 1 < segs.length, segs[segs.length - 1].z0 + segs[segs.length - 1].height = L) ∧
      (∀ i (h : i < segs.length), segs[i].height = L / (segs.length : α) ∧ 0 < segs[i].height ∧ segs[i].radius = r) := by
  obtain ⟨segs, hs, hlen, htile⟩ := segments_tile_any_count _ (floor_count_nonneg r L hr hL) r L hL
  exact ⟨segs, hs, by rw [hlen]; omega, htile⟩

theorem mem_cell_iff {h : α} (hh : 0 < h) (z : α) (j : Nat) :
    ((j : α) * h ≤ z ∧ z < (j : α) * h + h) ↔ ⌊z / h⌋ = (j : Int) := by
  rw [Int.floor_eq_iff, Int.cast_natCast, le_div_iff₀ hh, div_lt_iff₀ hh, add_one_mul]

theorem segments_cover_unique_any_count (n : Int) (hn : 0 ≤ n) (r L : α) (hL : 0 < L) :
    ∃ segs, segments n r L = some segs ∧
      ∀ z, 0 ≤ z → z < L → ∃ i, ∃ h : i < segs.length, (segs[i].z0 ≤ z ∧ z < segs[i].z0 + segs[i].height) ∧
        ∀ j (hj : j < segs.length), (segs[j].z0 ≤ z ∧ z < segs[j].z0 + segs[j].height) → j = i := by
  obtain ⟨segs, hs, hlen, hform⟩ := segments_closed_form n hn r L
  have hpos : (0 : α) < (segs.length : α) := Nat.cast_pos.mpr (by rw [hlen]; omega)
  have hh : 0 < L / (segs.length : α) := div_pos hL hpos
  refine ⟨segs, hs, fun z hz0 hzL => ?_⟩
  -- the cell of `z` is number `⌊z / h⌋`, and it is below `len` because `z < L = len·h`
  obtain ⟨i, hi⟩ := Int.eq_ofNat_of_zero_le (Int.floor_nonneg.mpr (div_nonneg hz0 hh.le))
  have hcell := (mem_cell_iff hh z i).mpr hi
  have hilt : i < segs.length := by
    have : (i : α) * (L / (segs.length : α)) < (segs.length : α) * (L / (segs.length : α)) :=
      hcell.1.trans_lt (by rwa [mul_div_cancel₀ _ hpos.ne'])
    exact Nat.cast_lt.mp (lt_of_mul_lt_mul_right this hh.le)
  refine ⟨i, hilt, ?_, fun j hj hjz => ?_⟩
  · rwa [(hform i hilt).1, (hform i hilt).2.1]
  · rw [(hform j hj).1, (hform j hj).2.1] at hjz
    exact Int.ofNat_inj.mp (((mem_cell_iff hh z j).mp hjz).symm.trans hi)

/-- "exactly once": every axial position of `[0, L)` lies in exactly one segment `[z0, z0 + height)`. -/
theorem segments_cover_unique (r L : α) (hr : 0 < r) (hL : 0 < L) :
    ∃ segs, segments ⌊L / (two * r)⌋ r L = some segs ∧
      ∀ z, 0 ≤ z → z < L → ∃ i, ∃ h : i < segs.length, (segs[i].z0 ≤ z ∧ z < segs[i].z0 + segs[i].height) ∧
        ∀ j (hj : j < segs.length), (segs[j].z0 ≤ z ∧ z < segs[j].z0 + segs[j].height) → j = i :=
  segments_cover_unique_any_count _ (floor_count_nonneg r L hr hL) r L hL

/-- for `n > 1` the segment height is "roughly 2r": `2r ≤ h < 3r` -/
theorem segments_height_bounds (r L : α) (hr : 0 < r) (hL : 0 < L) (hn : 1 < ⌊L / (two * r)⌋) :
    two * r ≤ L / ((⌊L / (two * r)⌋.toNat : Nat) : α) ∧ L / ((⌊L / (two * r)⌋.toNat : Nat) : α) < 3 * r := by
  rw [two_eq] at hn ⊢
  have h2r : (0 : α) < 2 * r := mul_pos two_pos hr
  -- with `n` the count: `n·2r ≤ L < n·2r + 2r`, and `2r ≤ n·r` because `n ≥ 2`
  obtain ⟨n, hn'⟩ := Int.eq_ofNat_of_zero_le (by omega : 0 ≤ ⌊L / (2 * r)⌋)
  obtain ⟨hle, hlt⟩ := (mem_cell_iff h2r L n).mpr hn'
  rw [hn'] at hn
  have hn2 : (2 : α) ≤ (n : α) := Nat.ofNat_le_cast.mpr (Int.ofNat_lt.mp hn)
  have hnr := mul_le_mul_of_nonneg_right hn2 hr.le
  have hnpos : (0 : α) < (n : α) := two_pos.trans_le hn2
  rw [hn', Int.toNat_natCast, le_div_iff₀ hnpos, div_lt_iff₀ hnpos]
  refine ⟨(mul_comm _ _).trans_le hle, ?_⟩
  calc L < n * (2 * r) + 2 * r := hlt
    _ ≤ n * (2 * r) + n * r := (add_le_add_iff_left _).mpr hnr
    _ = 3 * r * n := by ring

end Field

section Spectrum
variable {α : Type} [Field α] [LinearOrder α] [IsStrictOrderedRing α]

/-! ## LaserSpectrum._update_cache -/

theorem firstLower_eq (lo d : α) : firstLower lo d = lo := by
  unfold firstLower wavelength
  norm_num
  ring

theorem binEdges_length (d s : α) (n : Nat) : (binEdges d s n).length = n := by
  induction n generalizing s with
  | zero => rfl
  | succ n ih => simp [binEdges, ih]

theorem binEdges_get (d s : α) (n i : Nat) (h : i < (binEdges d s n).length) :
    (binEdges d s n)[i] = (s + (i : α) * d, s + ((i : α) + 1) * d) := by
  induction n generalizing s i with
  | zero => simp [binEdges] at h
  | succ n ih =>
    cases i with
    | zero => simp [binEdges]
    | succ i =>
      simp only [binEdges, List.getElem_cons_succ]
      rw [ih]
      push_cast
      congr 1 <;> ring

theorem delta_mul (lo hi : α) (n : Nat) (hn : 0 < n) : (n : α) * delta lo hi n = hi - lo :=
  mul_div_cancel₀ _ (Nat.cast_ne_zero.mpr hn.ne')

theorem delta_pos (lo hi : α) (n : Nat) (hn : 0 < n) (hlt : lo < hi) : 0 < delta lo hi n :=
  div_pos (sub_pos.mpr hlt) (Nat.cast_pos.mpr hn)

/-- the bins are `[lo + i·Δ, lo + (i+1)·Δ]`, `i < n` -/
theorem bins_closed_form (lo hi : α) (n i : Nat) (h : i < (bins lo hi n).length) :
    (bins lo hi n)[i] = (lo + (i : α) * delta lo hi n, lo + ((i : α) + 1) * delta lo hi n) := by
  unfold bins at h ⊢
  rw [binEdges_get, firstLower_eq]

theorem bins_length (lo hi : α) (n : Nat) : (bins lo hi n).length = n := binEdges_length _ _ _

theorem powerList_length (f : α → α → α) (lo hi : α) (n : Nat) : (powerList f lo hi n).length = n := by
  simp [powerList, psdList, bins_length]

theorem bins_width {lo hi : α} {n : Nat} {e : α × α} (he : e ∈ bins lo hi n) : e.2 - e.1 = delta lo hi n := by
  obtain ⟨i, h, rfl⟩ := List.getElem_of_mem he
  rw [bins_closed_form]
  ring

/-- bin centres reported by `wavelengths` are the mid-points of the bins used for the densities -/
theorem wavelengths_are_bin_centres (lo hi : α) (n i : Nat) (h : i < (bins lo hi n).length)
    (h' : i < (wavelengths lo hi n).length) :
    (wavelengths lo hi n)[i] = ((bins lo hi n)[i].1 + (bins lo hi n)[i].2) / 2 := by
  rw [bins_closed_form]
  simp only [wavelengths, List.getElem_map, List.getElem_range, wavelength]
  norm_num
  ring

theorem sum_binEdges_telescope (F : α → α) (d s : α) (n : Nat) :
    sumList ((binEdges d s n).map fun e => F e.2 - F e.1) = F (s + (n : α) * d) - F s := by
  induction n generalizing s with
  | zero => simp [binEdges, sumList]
  | succ n ih =>
    simp only [binEdges, List.map_cons, sumList, List.foldr_cons] at ih ⊢
    rw [ih]
    push_cast
    have : s + d + (n : α) * d = s + ((n : α) + 1) * d := by ring
    rw [this]; ring

theorem sumList_map_mul (xs : List α) (c : α) : sumList (xs.map fun x => x * c) = sumList xs * c := by
  induction xs with
  | nil => simp [sumList]
  | cons x xs ih =>
    simp only [List.map_cons, sumList, List.foldr_cons] at ih ⊢
    rw [ih]; ring

theorem powerList_getElem (f : α → α → α) (lo hi : α) (n i : Nat) (h : i < (powerList f lo hi n).length)
    (h' : i < (bins lo hi n).length) :
    (powerList f lo hi n)[i] = f (bins lo hi n)[i].1 (bins lo hi n)[i].2 * delta lo hi n := by
  simp only [powerList, psdList, List.getElem_map]

/-- the discrete form of "per-bin power = ∫ density over the bin ⇒ total power = ∫ density over the range", `F` an
antiderivative of the density -/
theorem sum_powerList_of_antiderivative (F : α → α) (f : α → α → α) (lo hi : α) (n : Nat) (hn : 0 < n)
    (hf : ∀ e ∈ bins lo hi n, f e.1 e.2 * delta lo hi n = F e.2 - F e.1) :
    sumList (powerList f lo hi n) = F hi - F lo := by
  have : powerList f lo hi n = (bins lo hi n).map fun e => F e.2 - F e.1 := by
    rw [powerList, psdList, List.map_map]
    exact List.map_congr_left hf
  rw [this, bins, sum_binEdges_telescope, firstLower_eq, delta_mul lo hi n hn, add_sub_cancel]

theorem sum_powerList_const (ρ : α) (f : α → α → α) (lo hi : α) (n : Nat) (hn : 0 < n)
    (hf : ∀ e ∈ bins lo hi n, f e.1 e.2 = ρ) : sumList (powerList f lo hi n) = ρ * (hi - lo) := by
  rw [sum_powerList_of_antiderivative (fun x => ρ * x) f lo hi n hn, mul_sub]
  intro e he
  rw [hf e he, ← mul_sub, bins_width he]

theorem gauss_bin_power (erf : α → α) (mean k d a b : α) (hd : d ≠ 0) :
    gaussBinPsd erf mean k d a b * d = 0.5 * erf ((b - mean) * k) - 0.5 * erf ((a - mean) * k) := by
  rw [gaussBinPsd, div_mul_cancel₀ _ hd, mul_sub]

/-- **spectrum_bins_telescope** (GaussianSpectrum): Σ power = ½ (erf((max − μ)k) − erf((min − μ)k)), for any `erf` -/
theorem spectrum_bins_telescope (erf : α → α) (mean k lo hi : α) (n : Nat) (hn : 0 < n) (hlt : lo < hi) :
    sumList (powerList (gaussBinPsd erf mean k (delta lo hi n)) lo hi n)
      = 0.5 * (erf ((hi - mean) * k) - erf ((lo - mean) * k)) := by
  rw [sum_powerList_of_antiderivative (fun x => 0.5 * erf ((x - mean) * k)) _ lo hi n hn
    fun e _ => gauss_bin_power erf mean k _ e.1 e.2 (delta_pos lo hi n hn hlt).ne', mul_sub]

/-- **bin_power_is_integral** (GaussianSpectrum, algebraic half): the power of bin i is the increment of the
cumulative distribution `Φ(x) = ½(1 + erf((x − μ)k))` over the bin.  (`Props/C18Real.lean` shows that this
increment is `∫ density` over the bin, with `erf` the real error function.) -/
theorem gauss_bin_power_is_cdf_increment (erf : α → α) (mean k lo hi : α) (n i : Nat) (hn : 0 < n) (hlt : lo < hi)
    (h : i < (powerList (gaussBinPsd erf mean k (delta lo hi n)) lo hi n).length) (h' : i < (bins lo hi n).length) :
    (powerList (gaussBinPsd erf mean k (delta lo hi n)) lo hi n)[i]
      = 0.5 * (1 + erf (((bins lo hi n)[i].2 - mean) * k)) - 0.5 * (1 + erf (((bins lo hi n)[i].1 - mean) * k)) := by
  rw [powerList_getElem _ _ _ _ _ h h', gauss_bin_power erf mean k _ _ _ (delta_pos lo hi n hn hlt).ne']
  ring

theorem edge_mem_range (lo hi : α) (n k : Nat) (hn : 0 < n) (hlt : lo < hi) (hk : k ≤ n) :
    lo ≤ lo + (k : α) * delta lo hi n ∧ lo + (k : α) * delta lo hi n ≤ hi := by
  have hd := (delta_pos lo hi n hn hlt).le
  have h1 := mul_le_mul_of_nonneg_right (Nat.cast_le (α := α).mpr hk) hd
  rw [delta_mul lo hi n hn] at h1
  exact ⟨le_add_of_nonneg_right (mul_nonneg k.cast_nonneg hd), le_sub_iff_add_le'.mp h1⟩

/-- ConstantSpectrum: every bin lies inside the support, so the trapezoid sees the density at both ends -/
theorem const_bins_inside (lo hi : α) (n i : Nat) (hn : 0 < n) (hlt : lo < hi) (h : i < (bins lo hi n).length) :
    lo ≤ (bins lo hi n)[i].1 ∧ (bins lo hi n)[i].1 ≤ hi ∧ lo ≤ (bins lo hi n)[i].2 ∧ (bins lo hi n)[i].2 ≤ hi := by
  have hi' : i < n := by rwa [bins_length] at h
  have h1 := edge_mem_range lo hi n i hn hlt hi'.le
  have h2 := edge_mem_range lo hi n (i + 1) hn hlt hi'
  rw [Nat.cast_add_one] at h2
  rw [bins_closed_form]
  exact ⟨h1.1, h1.2, h2.1, h2.2⟩

theorem trapezoidPsd_const_bin {lo hi : α} {n : Nat} (hn : 0 < n) (hlt : lo < hi) {e : α × α}
    (he : e ∈ bins lo hi n) : trapezoidPsd (constEval lo hi) e.1 e.2 = 1 / (hi - lo) := by
  obtain ⟨i, h, rfl⟩ := List.getElem_of_mem he
  obtain ⟨a1, a2, b1, b2⟩ := const_bins_inside lo hi n i hn hlt h
  simp only [trapezoidPsd, constEval, a1, a2, b1, b2, and_self, if_true]
  norm_num
  ring

/-- **bin_power_is_integral** (ConstantSpectrum): psd of every bin is the density `1/(max − min)`, and the power is
(bin width) × density, i.e. the integral of the constant density over the bin. -/
theorem const_bin_power_is_integral (lo hi : α) (n i : Nat) (hn : 0 < n) (hlt : lo < hi)
    (h : i < (powerList (trapezoidPsd (constEval lo hi)) lo hi n).length) (h' : i < (bins lo hi n).length) :
    (psdList (trapezoidPsd (constEval lo hi)) lo hi n)[i]'(by simpa [powerList] using h) = 1 / (hi - lo) ∧
    (powerList (trapezoidPsd (constEval lo hi)) lo hi n)[i]
      = ((bins lo hi n)[i].2 - (bins lo hi n)[i].1) * (1 / (hi - lo)) := by
  have he := List.getElem_mem h'
  have hp := trapezoidPsd_const_bin hn hlt he
  refine ⟨by simpa only [psdList, List.getElem_map] using hp, ?_⟩
  rw [powerList_getElem _ _ _ _ _ h h', hp, bins_width he, mul_comm]

/-- ConstantSpectrum: the range is the support of the line, and the bin powers sum to one -/
theorem const_total_power_one (lo hi : α) (n : Nat) (hn : 0 < n) (hlt : lo < hi) :
    sumList (powerList (trapezoidPsd (constEval lo hi)) lo hi n) = 1 := by
  rw [sum_powerList_const (1 / (hi - lo)) _ lo hi n hn fun e he => trapezoidPsd_const_bin hn hlt he,
    one_div_mul_cancel (sub_pos.mpr hlt).ne']

/-- the same for a class whose `_get_bin_power_spectral_density` returns the density `1/(max − min)` directly
(`BinPsd.constDensity`, the form of notes/fixes/C18-5.diff): every bin power is width × density, total one -/
theorem const_density_total_power_one (lo hi : α) (n : Nat) (hn : 0 < n) (hlt : lo < hi) :
    sumList (powerList (fun _ _ => 1.0 / (hi - lo)) lo hi n) = 1 := by
  rw [sum_powerList_const (1.0 / (hi - lo)) _ lo hi n hn fun _ _ => rfl, div_mul_cancel₀ _ (sub_pos.mpr hlt).ne']
  norm_num

end Spectrum

section Beam
variable {α : Type} [Field α] [LinearOrder α] [IsStrictOrderedRing α]

/-! ## Gaussian-beam width σ(z) and the normalisation constant -/

/-- `z_R = 2π σ0² / (λ · 1e-9)` (wavelength in nm) -/
theorem rayleigh_formula (pi sw wl : α) (hwl : wl ≠ 0) :
    rayleigh pi sw wl = 2 * pi * sw ^ 2 / (wl * (1 / 1000000000)) := by
  have h9 : (1e-9 : α) = 1 / 1000000000 := by norm_num
  rw [rayleigh, Laser.sq, two_eq, mul_one, div_div, ← pow_two, h9]

theorem gbm_sigma_formula (pi sw wl wz z : α) :
    gbmSigma2 pi sw wl wz z = sw ^ 2 * (1 + ((z - wz) / rayleigh pi sw wl) ^ 2) := by
  unfold gbmSigma2 Laser.sq; ring

theorem gbm_sigma_waist (pi sw wl wz : α) : gbmSigma2 pi sw wl wz wz = sw ^ 2 := by
  rw [gbm_sigma_formula]; simp

theorem gbm_sigma_ge_waist (pi sw wl wz z : α) (hsw : sw ≠ 0) :
    sw ^ 2 ≤ gbmSigma2 pi sw wl wz z ∧ 0 < gbmSigma2 pi sw wl wz z := by
  rw [gbm_sigma_formula]
  have h1 : 0 < sw ^ 2 := by positivity
  have h2 := le_mul_of_one_le_right h1.le (le_add_of_nonneg_right (sq_nonneg ((z - wz) / rayleigh pi sw wl)))
  exact ⟨h2, h1.trans_le h2⟩

theorem gbm_sigma_symm (pi sw wl wz d : α) : gbmSigma2 pi sw wl wz (wz + d) = gbmSigma2 pi sw wl wz (wz - d) := by
  rw [gbm_sigma_formula, gbm_sigma_formula]; ring

/-- `normalisation = E_p / (c τ)`; multiplied by the spatial pulse length it gives back the pulse energy -/
theorem normalisation_spec (c ep tau : α) (hc : 0 < c) (ht : 0 < tau) :
    normalisation c ep tau = ep / (c * tau) ∧ normalisation c ep tau * (c * tau) = ep := by
  unfold normalisation
  refine ⟨rfl, ?_⟩
  field_simp

/-- the energy densities factor as (normalisation) × (unit transverse shape) -/
theorem cbg_factor (E : Ext α) (ep tau sx sy x y : α) :
    cbgDensity E ep tau sx sy x y = ep / (E.c * tau) * bivEval E.exp (bivCache E.pi sx sy) x y := rfl

theorem gba_factor (E : Ext α) (ep tau wl wz sw x y z : α) :
    gbaDensity E ep tau wl wz sw x y z = ep / (E.c * tau) * gbmEval E.pi E.exp wl wz sw x y z := rfl

theorem tri_factor (E : Ext α) (ep mean sx sy sz x y z : α) :
    triDensity E ep mean sx sy sz x y z = ep * triEval E.exp (triCache E.pi E.sqrt mean sx sy sz) x y z := rfl

/-- closed forms of the bivariate and the Gaussian-beam unit shapes (the documented formulas) -/
theorem bivEval_formula (exp : α → α) (pi sx sy x y : α) (hx : sx ≠ 0) (hy : sy ≠ 0) :
    bivEval exp (bivCache pi sx sy) x y
      = 1 / (2 * pi * sx * sy) * exp (-(x ^ 2 / (2 * sx ^ 2)) - y ^ 2 / (2 * sy ^ 2)) := by
  unfold bivEval bivCache Laser.sq
  rw [two_eq]
  congr 2
  field_simp
  ring

theorem gbmEval_formula (exp : α → α) (pi wl wz sw x y z : α) (hsw : sw ≠ 0) :
    gbmEval pi exp wl wz sw x y z
      = 1 / (2 * pi * gbmSigma2 pi sw wl wz z) * exp (-((x ^ 2 + y ^ 2) / (2 * gbmSigma2 pi sw wl wz z))) := by
  have hpos := (gbm_sigma_ge_waist pi sw wl wz z hsw).2
  unfold gbmEval Laser.sq
  rw [two_eq]
  simp only
  congr 2
  field_simp

end Beam

section History
variable {α : Type} [Field α] [LinearOrder α] [IsStrictOrderedRing α]

/-! ## histories of assignments: the interpreter of the generated tables

Decidable conditions on a class table (checked on the *generated* tables in `Props/C18Table*.lean`): -/

/-- does setter `s` write a field the rebuild code reads? -/
def writesRead (t : Cls) (s : Setter) : Bool := s.writes.any fun w => decide (w.1 ∈ t.rebuildReads)
def hasRebuild (s : Setter) : Bool := s.refresh.any isRebuild
/-- every setter that writes a field read by `_function_changed` / `_update_cache` performs that rebuild -/
def coveredB (t : Cls) : Bool := t.setters.all fun s => !writesRead t s || hasRebuild s
/-- a setter validates before writing, and a field that the rebuilt function insists on being positive is only
written by a setter that has checked positivity (so a rejected assignment cannot be half-applied) -/
def atomicSetter (t : Cls) (s : Setter) : Bool :=
  s.guardFirst && s.writes.all fun w =>
    !decide (w.1 ∈ t.rebuildPositive) || (s.guard == .positive && (w.2 == .value || w.2 == .timesC))
def atomicB (t : Cls) : Bool := t.setters.all (atomicSetter t)

/-- the cached function / binned spectrum reflects the current fields -/
def Clean (t : Cls) (o : Obj α) : Prop := ∀ f ∈ t.rebuildReads, o.snap f = o.fields f
/-- what the inner function constructors require -/
def Pos (t : Cls) (o : Obj α) : Prop := ∀ f ∈ t.rebuildPositive, 0 < o.fields f

theorem rebuildOk_iff (t : Cls) (fs : String → α) : rebuildOk t fs = true ↔ ∀ f ∈ t.rebuildPositive, 0 < fs f := by
  simp [rebuildOk, List.all_eq_true]

theorem rebuild_clean (t : Cls) (o o' : Obj α) (h : rebuild t o = some o') :
    Clean t o' ∧ o'.fields = o.fields ∧ o'.built = true := by
  unfold rebuild at h
  split at h
  · cases h
    exact ⟨fun f hf => if_pos hf, rfl, rfl⟩
  · cases h

theorem runRefresh_fields (t : Cls) (o : Obj α) (rs : List Refresh) : (runRefresh t o rs).1.fields = o.fields := by
  induction rs generalizing o with
  | nil => rfl
  | cons r rs ih =>
    unfold runRefresh
    split
    · split
      · rename_i o' ho'
        rw [ih, (rebuild_clean t o o' ho').2.1]
      · rfl
    · rw [ih]

theorem runRefresh_keeps_clean (t : Cls) (o : Obj α) (rs : List Refresh) (h : Clean t o) :
    Clean t (runRefresh t o rs).1 := by
  induction rs generalizing o with
  | nil => exact h
  | cons r rs ih =>
    unfold runRefresh
    split
    · split
      · rename_i o' ho'
        exact ih o' (rebuild_clean t o o' ho').1
      · exact h
    · exact ih _ h

theorem runRefresh_makes_clean (t : Cls) (o : Obj α) (rs : List Refresh) (hok : (runRefresh t o rs).2 = .ok)
    (hr : rs.any isRebuild = true) :
    Clean t (runRefresh t o rs).1 := by
  induction rs generalizing o with
  | nil => simp at hr
  | cons r rs ih =>
    unfold runRefresh at hok ⊢
    cases hrb : isRebuild r with
    | true =>
      simp only [hrb, if_true] at hok ⊢
      split
      · rename_i o' ho'
        exact runRefresh_keeps_clean t o' rs (rebuild_clean t o o' ho').1
      · rename_i hnone
        simp [hnone] at hok
    | false =>
      simp only [hrb, Bool.false_eq_true, if_false] at hok ⊢
      rw [List.any_cons, hrb, Bool.false_or] at hr
      exact ih _ hok hr

theorem runRefresh_pos_ok (t : Cls) (o : Obj α) (rs : List Refresh) (hp : Pos t o) : (runRefresh t o rs).2 = .ok := by
  induction rs generalizing o with
  | nil => rfl
  | cons r rs ih =>
    unfold runRefresh
    split
    · simp only [rebuild, (rebuildOk_iff t o.fields).mpr hp, if_true]
      exact ih _ hp
    · exact ih _ hp

theorem runRefresh_no_rebuild_snap (t : Cls) (o : Obj α) (rs : List Refresh) (h : rs.any isRebuild = false) :
    (runRefresh t o rs).1.snap = o.snap ∧ (runRefresh t o rs).2 = .ok := by
  induction rs generalizing o with
  | nil => exact ⟨rfl, rfl⟩
  | cons r rs ih =>
    simp only [List.any_cons, Bool.or_eq_false_iff] at h
    unfold runRefresh
    simp only [h.1, Bool.false_eq_true, if_false]
    exact ih _ h.2

section Writes
variable (E : Ext α) (ws : List (String × Rhs)) (fs : String → α) (v : α) (f : String)

/-- in the second case `w` is the last write naming `f`; the statement does not record that -/
theorem applyWrites_cases :
    ((∀ w ∈ ws, w.1 ≠ f) ∧ applyWrites E ws fs v f = fs f) ∨
      ∃ w ∈ ws, w.1 = f ∧ applyWrites E ws fs v f = evalRhs E w.2 v := by
  induction ws generalizing fs with
  | nil => exact Or.inl ⟨fun _ h => absurd h List.not_mem_nil, rfl⟩
  | cons w0 ws ih =>
    rcases ih (write fs w0.1 (evalRhs E w0.2 v)) with ⟨hn, h⟩ | ⟨w, hw, hwf, h⟩
    · by_cases h0 : w0.1 = f
      · exact Or.inr ⟨w0, List.mem_cons_self, h0, h.trans (if_pos h0.symm)⟩
      · exact Or.inl ⟨List.forall_mem_cons.mpr ⟨h0, hn⟩, h.trans (if_neg (Ne.symm h0))⟩
    · exact Or.inr ⟨w, List.mem_cons_of_mem _ hw, hwf, h⟩

theorem applyWrites_notin (h : ∀ w ∈ ws, w.1 ≠ f) : applyWrites E ws fs v f = fs f := by
  rcases applyWrites_cases E ws fs v f with ⟨_, h'⟩ | ⟨w, hw, hwf, _⟩
  · exact h'
  · exact absurd hwf (h w hw)

theorem applyWrites_pos (hw : ∀ w ∈ ws, w.1 = f → 0 < evalRhs E w.2 v) (hf : 0 < fs f ∨ ∃ w ∈ ws, w.1 = f) :
    0 < applyWrites E ws fs v f := by
  rcases applyWrites_cases E ws fs v f with ⟨hn, h⟩ | ⟨w, hw', hwf, h⟩
  · rw [h]; exact hf.resolve_right fun ⟨w, hw', hwf⟩ => hn w hw' hwf
  · rw [h]; exact hw w hw' hwf

end Writes

theorem guard_positive_ok (fs : String → α) (v : α) : guardOk Guard.positive fs v = true ↔ 0 < v := by
  simp [guardOk]

theorem atomicSetter_spec {t : Cls} {s : Setter} (h : atomicSetter t s = true) :
    s.guardFirst = true ∧ ∀ w ∈ s.writes, w.1 ∈ t.rebuildPositive →
      s.guard = .positive ∧ (w.2 = .value ∨ w.2 = .timesC) := by
  simp only [atomicSetter, Bool.and_eq_true, List.all_eq_true, Bool.or_eq_true, Bool.not_eq_true',
    decide_eq_false_iff_not, beq_iff_eq] at h
  exact ⟨h.1, fun w hw hp => (h.2 w hw).resolve_left fun hn => hn hp⟩

theorem atomic_writes_pos (E : Ext α) (hc : 0 < E.c) {t : Cls} {s : Setter} (hat : atomicSetter t s = true)
    {fs : String → α} {v : α} (hg : guardOk s.guard fs v = true) :
    ∀ w ∈ s.writes, w.1 ∈ t.rebuildPositive → 0 < evalRhs E w.2 v := by
  intro w hw hwp
  obtain ⟨hgp, hrv⟩ := (atomicSetter_spec hat).2 w hw hwp
  rw [hgp, guard_positive_ok] at hg
  rcases hrv with h | h
  · rw [h]
    exact hg
  · rw [h]
    exact mul_pos hg hc

theorem setWith_guardFirst (E : Ext α) (t : Cls) (s : Setter) (o : Obj α) (v : α) (hgf : s.guardFirst = true) :
    setWith E t s o v = if guardOk s.guard o.fields v = true then
        runRefresh t { o with fields := applyWrites E s.writes o.fields v } s.refresh
      else (o, .valueError) := by
  unfold setWith
  by_cases hg : guardOk s.guard o.fields v = true <;> simp [hgf, hg]

theorem setWith_ok (E : Ext α) (t : Cls) (s : Setter) (o : Obj α) (v : α)
    (hgf : s.guardFirst = true) (hok : (setWith E t s o v).2 = .ok) :
    guardOk s.guard o.fields v = true ∧ (setWith E t s o v).1.fields = applyWrites E s.writes o.fields v ∧
      setWith E t s o v = runRefresh t { o with fields := applyWrites E s.writes o.fields v } s.refresh := by
  rw [setWith_guardFirst E t s o v hgf] at hok ⊢
  split_ifs at hok ⊢ with hg
  exact ⟨hg, runRefresh_fields t _ _, rfl⟩

theorem refresh_clean (E : Ext α) (t : Cls) (s : Setter) (hcov : (!writesRead t s || hasRebuild s) = true)
    (o : Obj α) (v : α)
    (hok : (runRefresh t { o with fields := applyWrites E s.writes o.fields v } s.refresh).2 = .ok)
    (hcl : hasRebuild s = false → Clean t o) :
    Clean t (runRefresh t { o with fields := applyWrites E s.writes o.fields v } s.refresh).1 := by
  cases hrb : hasRebuild s with
  | true => exact runRefresh_makes_clean t _ s.refresh hok hrb
  | false =>
    rw [hrb, Bool.or_false, Bool.not_eq_true', writesRead, List.any_eq_false] at hcov
    exact runRefresh_keeps_clean t _ s.refresh fun f hf =>
      (hcl hrb f hf).trans (applyWrites_notin E s.writes o.fields v f fun w hw heq =>
        hcov w hw (decide_eq_true (heq ▸ hf))).symm

/-- one assignment through setter `s`: an accepted assignment of a covered setter leaves the object clean; under
atomicity a rejected assignment leaves the object untouched, and positivity of the guarded fields is invariant. -/
theorem setWith_inv (E : Ext α) (hc : 0 < E.c) (t : Cls) (s : Setter)
    (hcov : (!writesRead t s || hasRebuild s) = true) (hat : atomicSetter t s = true)
    (o : Obj α) (v : α) (hcl : Clean t o) (hp : Pos t o) :
    Clean t (setWith E t s o v).1 ∧ Pos t (setWith E t s o v).1 ∧
      ((setWith E t s o v).2 = .ok ∨ (setWith E t s o v).1 = o) := by
  rw [setWith_guardFirst E t s o v (atomicSetter_spec hat).1]
  split_ifs with hg
  · have hpos1 : Pos t { o with fields := applyWrites E s.writes o.fields v } := fun f hf =>
      applyWrites_pos E s.writes o.fields v f
        (fun w hw hwf => atomic_writes_pos E hc hat hg w hw (hwf ▸ hf)) (Or.inl (hp f hf))
    have hok := runRefresh_pos_ok t _ s.refresh hpos1
    exact ⟨refresh_clean E t s hcov o v hok fun _ => hcl,
      fun f hf => by rw [runRefresh_fields]; exact hpos1 f hf, Or.inl hok⟩
  · exact ⟨hcl, hp, Or.inr rfl⟩

theorem findSetter_mem (t : Cls) (p : String) (s : Setter) (h : findSetter t p = some s) :
    s ∈ t.setters ∧ s.prop = p := by
  unfold findSetter at h
  exact ⟨List.mem_of_find?_eq_some h, by simpa using List.find?_some h⟩

theorem setProp_step (E : Ext α) (hc : 0 < E.c) (t : Cls) (hcov : coveredB t = true) (hat : atomicB t = true)
    (o : Obj α) (p : String) (v : α) (hcl : Clean t o) (hp : Pos t o) :
    Clean t (setProp E t o p v).1 ∧ Pos t (setProp E t o p v).1 ∧
      ((setProp E t o p v).1 = o ∨
        ∃ s ∈ t.setters, s.prop = p ∧ setProp E t o p v = setWith E t s o v ∧ (setWith E t s o v).2 = .ok) := by
  unfold setProp
  split
  · exact ⟨hcl, hp, Or.inl rfl⟩
  · rename_i s hs
    obtain ⟨hmem, hsp⟩ := findSetter_mem t p s hs
    obtain ⟨h1, h2, h3⟩ := setWith_inv E hc t s (List.all_eq_true.mp hcov s hmem) (List.all_eq_true.mp hat s hmem)
      o v hcl hp
    exact ⟨h1, h2, h3.symm.imp id fun hok => ⟨s, hmem, hsp, rfl, hok⟩⟩

theorem runOps_induction (E : Ext α) (t : Cls) (P : Obj α → Prop)
    (hstep : ∀ o p v, P o → P (setProp E t o p v).1) (ops : List (String × α)) (o : Obj α) (h : P o) :
    P (runOps E t o ops) := by
  induction ops generalizing o with
  | nil => exact h
  | cons op ops ih =>
    obtain ⟨p, v⟩ := op
    exact ih _ (hstep o p v h)

/-- **no stale state after any history** (value level): starting from a clean object, after *any* sequence of
assignments — accepted or rejected, any values — the cached energy-density function / binned spectrum is the one a
rebuild from the current fields would produce. -/
theorem history_clean (E : Ext α) (hc : 0 < E.c) (t : Cls) (hcov : coveredB t = true) (hat : atomicB t = true)
    (ops : List (String × α)) (o : Obj α) (hcl : Clean t o) (hp : Pos t o) :
    Clean t (runOps E t o ops) ∧ Pos t (runOps E t o ops) :=
  runOps_induction E t (fun o => Clean t o ∧ Pos t o)
    (fun o p v h => let h' := setProp_step E hc t hcov hat o p v h.1 h.2; ⟨h'.1, h'.2.1⟩) ops o ⟨hcl, hp⟩

/-- a rejected assignment changes nothing (atomicity) -/
theorem rejected_assignment_unchanged (E : Ext α) (hc : 0 < E.c) (t : Cls) (hcov : coveredB t = true)
    (hat : atomicB t = true) (o : Obj α) (p : String) (v : α) (hcl : Clean t o) (hp : Pos t o)
    (hrej : (setProp E t o p v).2 ≠ .ok) : (setProp E t o p v).1 = o := by
  rcases (setProp_step E hc t hcov hat o p v hcl hp).2.2 with h | ⟨s, _, _, he, hok⟩
  · exact h
  · exact absurd (he ▸ hok) hrej

end History

section Fresh
variable {α : Type} [Field α] [LinearOrder α] [IsStrictOrderedRing α]

def propsUniqueB (t : Cls) : Bool :=
  t.setters.all fun s1 => t.setters.all fun s2 => s1.prop != s2.prop || s1 == s2

/-- every field is written by one setter only, once -/
def singleWriterB (t : Cls) : Bool :=
  t.setters.all fun s1 => t.setters.all fun s2 => s1.writes.all fun w1 => s2.writes.all fun w2 =>
    w1.1 != w2.1 || (s1 == s2 && w1 == w2)

theorem propsUnique_spec {t : Cls} (h : propsUniqueB t = true) {s1 s2 : Setter} (h1 : s1 ∈ t.setters)
    (h2 : s2 ∈ t.setters) (hp : s1.prop = s2.prop) : s1 = s2 := by
  have := List.all_eq_true.mp (List.all_eq_true.mp h s1 h1) s2 h2
  simpa [hp] using this

theorem findSetter_of_mem (t : Cls) (hu : propsUniqueB t = true) (s : Setter) (hs : s ∈ t.setters) :
    findSetter t s.prop = some s := by
  cases h : findSetter t s.prop with
  | none => exact absurd (List.find?_eq_none.mp h s hs) (by simp)
  | some s' =>
    obtain ⟨hm, hp⟩ := findSetter_mem t _ s' h
    rw [propsUnique_spec hu hm hs hp]

theorem singleWriter_spec {t : Cls} (h : singleWriterB t = true) {s1 s2 : Setter} {w1 w2 : String × Rhs}
    (h1 : s1 ∈ t.setters) (h2 : s2 ∈ t.setters) (hw1 : w1 ∈ s1.writes) (hw2 : w2 ∈ s2.writes)
    (hf : w1.1 = w2.1) : s1 = s2 ∧ w1 = w2 := by
  have := List.all_eq_true.mp (List.all_eq_true.mp (List.all_eq_true.mp (List.all_eq_true.mp h s1 h1) s2 h2) w1 hw1) w2 hw2
  simpa [hf] using this

/-- ghost: the last accepted value of every property -/
def upd (params : String → α) (p : String) (v : α) : String → α := fun q => if q = p then v else params q

/-- the fields written by the setters in `C` hold what those setters compute from `params` -/
def AgreesOn (E : Ext α) (t : Cls) (C : List String) (params : String → α) (o : Obj α) : Prop :=
  ∀ s ∈ t.setters, s.prop ∈ C → ∀ w ∈ s.writes, o.fields w.1 = evalRhs E w.2 (params s.prop)

def PosOn (t : Cls) (C : List String) (o : Obj α) : Prop :=
  ∀ s ∈ t.setters, s.prop ∈ C → ∀ w ∈ s.writes, w.1 ∈ t.rebuildPositive → 0 < o.fields w.1

theorem setWith_fields (E : Ext α) (t : Cls) (hsw : singleWriterB t = true) (s : Setter) (hs : s ∈ t.setters)
    (hgf : s.guardFirst = true) (o : Obj α) (v : α) (hok : (setWith E t s o v).2 = .ok) :
    (∀ w ∈ s.writes, (setWith E t s o v).1.fields w.1 = evalRhs E w.2 v) ∧
      ∀ s' ∈ t.setters, s'.prop ≠ s.prop → ∀ w ∈ s'.writes, (setWith E t s o v).1.fields w.1 = o.fields w.1 := by
  rw [(setWith_ok E t s o v hgf hok).2.1]
  refine ⟨fun w hw => ?_, fun s' hs' hp w' hw' => applyWrites_notin E s.writes o.fields v w'.1 fun w hw heq =>
    hp (congrArg Setter.prop (singleWriter_spec hsw hs hs' hw hw' heq).1.symm)⟩
  -- the write that sets the field is `w`, the only one naming it
  rcases applyWrites_cases E s.writes o.fields v w.1 with ⟨hn, _⟩ | ⟨w', hw', hwf, h⟩
  · exact absurd rfl (hn w hw)
  · rw [h, (singleWriter_spec hsw hs hs hw' hw hwf).2]

def writtenBy (t : Cls) (called : List String) (f : String) : Bool :=
  t.setters.any fun s => decide (s.prop ∈ called) && s.writes.any fun w => w.1 == f

/-- `self._f = arg` in a constructor stands for the setter of the property `arg` when that setter only stores its
value in `_f` (no derived field, no positivity requirement of an inner constructor) -/
def initArgSetter (t : Cls) (f a : String) : Bool :=
  match findSetter t a with
  | some s => s.writes == [(f, Rhs.value)] && !decide (f ∈ t.rebuildPositive)
  | none => false

theorem initArgSetter_spec {t : Cls} {f a : String} (h : initArgSetter t f a = true) :
    ∃ s ∈ t.setters, s.prop = a ∧ s.writes = [(f, Rhs.value)] ∧ f ∉ t.rebuildPositive := by
  unfold initArgSetter at h
  split at h
  · rename_i s hfs
    simp only [Bool.and_eq_true, beq_iff_eq, Bool.not_eq_true', decide_eq_false_iff_not] at h
    exact ⟨s, (findSetter_mem t a s hfs).1, (findSetter_mem t a s hfs).2, h.1, h.2⟩
  · cases h

/-- abstract run of the constructor: a direct field initialisation must not clobber a field already written by a
setter, nor (once the function has been built) a field the rebuild reads; every `self.p = arg` passes the argument
of the same name; at the end every setter has run (or been bypassed by an equivalent `self._f = arg`) and at least
one of them rebuilt. -/
def ctorCheck (t : Cls) : List CtorOp → List String → Bool → Bool
  | [], called, built => built && t.setters.all fun s => decide (s.prop ∈ called)
  | .init f _ _ :: rest, called, built =>
    !writtenBy t called f && (!built || !decide (f ∈ t.rebuildReads)) && ctorCheck t rest called built
  | .initArg f a :: rest, called, built =>
    !writtenBy t called f && (!built || !decide (f ∈ t.rebuildReads)) &&
      ctorCheck t rest (if initArgSetter t f a then a :: called else called) built
  | .set p a :: rest, called, built =>
    p == a && (match findSetter t p with
      | some s => ctorCheck t rest (p :: called) (built || hasRebuild s)
      | none => false)
  | .checkRange _ _ :: rest, called, built => ctorCheck t rest called built
  | .other _ :: rest, called, built => ctorCheck t rest called built
  | .unknown _ :: _, _, _ => false

def ctorOkB (t : Cls) : Bool := ctorCheck t t.ctor [] false

/-- every field the inner constructors insist on is under the control of some setter -/
def positiveWrittenB (t : Cls) : Bool :=
  t.rebuildPositive.all fun f => t.setters.any fun s => s.writes.any fun w => w.1 == f

structure CInv (E : Ext α) (t : Cls) (args : String → α) (called : List String) (built : Bool) (o : Obj α) : Prop where
  agrees : AgreesOn E t called args o
  clean : built = true → Clean t o
  pos : PosOn t called o

theorem write_inv (E : Ext α) (t : Cls) (args : String → α) (called : List String) (built : Bool) (o : Obj α)
    (f : String) (x : α) (hw : (!writtenBy t called f) = true) (hb : (!built || !decide (f ∈ t.rebuildReads)) = true)
    (h : CInv E t args called built o) : CInv E t args called built { o with fields := write o.fields f x } := by
  simp only [writtenBy, Bool.not_eq_true', List.any_eq_false, Bool.and_eq_true, decide_eq_true_eq,
    List.any_eq_true, beq_iff_eq, not_and, not_exists] at hw
  refine ⟨fun s hs hc w hw' => ?_, fun hbt g hg => ?_, fun s hs hc w hw' hp => ?_⟩
  · exact (if_neg (hw s hs hc w hw')).trans (h.agrees s hs hc w hw')
  · have hgf : g ≠ f := by
      rintro rfl
      simp [hbt, hg] at hb
    exact (h.clean hbt g hg).trans (if_neg hgf).symm
  · exact (h.pos s hs hc w hw' hp).trans_eq (if_neg (hw s hs hc w hw')).symm

theorem CInv.call {E : Ext α} {t : Cls} {args : String → α} {called : List String} {built built' : Bool}
    {o o' : Obj α} (h : CInv E t args called built o) (hu : propsUniqueB t = true) {s : Setter} (hs : s ∈ t.setters)
    (hframe : ∀ s' ∈ t.setters, s'.prop ≠ s.prop → ∀ w ∈ s'.writes, o'.fields w.1 = o.fields w.1)
    (hown : ∀ w ∈ s.writes, o'.fields w.1 = evalRhs E w.2 (args s.prop))
    (hpos : ∀ w ∈ s.writes, w.1 ∈ t.rebuildPositive → 0 < evalRhs E w.2 (args s.prop))
    (hcl : built' = true → Clean t o') : CInv E t args (s.prop :: called) built' o' := by
  -- a called setter is `s` itself or one called before, whose fields have not moved
  have key : ∀ s' ∈ t.setters, s'.prop ∈ s.prop :: called → ∀ w ∈ s'.writes,
      o'.fields w.1 = evalRhs E w.2 (args s'.prop) ∧ (w.1 ∈ t.rebuildPositive → 0 < o'.fields w.1) := by
    intro s' hs' hc' w hw
    by_cases hp : s'.prop = s.prop
    · obtain rfl := propsUnique_spec hu hs' hs hp
      exact ⟨hown w hw, fun hp => (hpos w hw hp).trans_eq (hown w hw).symm⟩
    · have hc'' := (List.mem_cons.mp hc').resolve_left hp
      rw [hframe s' hs' hp w hw]
      exact ⟨h.agrees s' hs' hc'' w hw, h.pos s' hs' hc'' w hw⟩
  exact ⟨fun s' hs' hc' w hw => (key s' hs' hc' w hw).1, hcl, fun s' hs' hc' w hw => (key s' hs' hc' w hw).2⟩

section CtorSteps
variable (E : Ext α) (t : Cls) (args : String → α) (o : Obj α)

theorem runCtorFrom_cons (op : CtorOp) (rest : List CtorOp) :
    runCtorFrom E t args o (op :: rest) =
      if (ctorStep E t args o op).2 = .ok then runCtorFrom E t args (ctorStep E t args o op).1 rest
      else ctorStep E t args o op := by
  rcases hstep : ctorStep E t args o op with ⟨o', r⟩
  cases r <;> simp [runCtorFrom, hstep]

theorem runCtorFrom_cons_ok (op : CtorOp) (rest : List CtorOp)
    (hrun : (runCtorFrom E t args o (op :: rest)).2 = .ok) :
    (ctorStep E t args o op).2 = .ok ∧
      runCtorFrom E t args o (op :: rest) = runCtorFrom E t args (ctorStep E t args o op).1 rest := by
  rw [runCtorFrom_cons] at hrun ⊢
  split_ifs at hrun ⊢ with h
  · exact ⟨h, rfl⟩
  · exact absurd hrun h

theorem ctorStep_set {p a : String} {s : Setter} (hfs : findSetter t p = some s) :
    ctorStep E t args o (.set p a) = setWith E t s o (args a) := by
  simp only [ctorStep, setProp, hfs]

theorem ctorStep_inv (hc : 0 < E.c) (hcov : coveredB t = true) (hat : atomicB t = true)
    (hu : propsUniqueB t = true) (hsw : singleWriterB t = true) {op : CtorOp} {rest : List CtorOp}
    {called : List String} {built : Bool} (hchk : ctorCheck t (op :: rest) called built = true)
    (hinv : CInv E t args called built o) (hstep : (ctorStep E t args o op).2 = .ok) :
    ∃ called' built', ctorCheck t rest called' built' = true ∧
      CInv E t args called' built' (ctorStep E t args o op).1 := by
  cases op with
  | init f m e =>
    simp only [ctorCheck, Bool.and_eq_true] at hchk
    exact ⟨called, built, hchk.2, write_inv E t args called built o f _ hchk.1.1 hchk.1.2 hinv⟩
  | initArg f a =>
    simp only [ctorCheck, Bool.and_eq_true] at hchk
    have hbase := write_inv E t args called built o f (args a) hchk.1.1 hchk.1.2 hinv
    refine ⟨_, built, hchk.2, ?_⟩
    split_ifs with hia
    · -- the bypassed setter only stores its value, in `f`, which now holds `args a`
      obtain ⟨s, hs, rfl, hws, hnp⟩ := initArgSetter_spec hia
      refine hbase.call hu hs (fun _ _ _ _ _ => rfl) ?_ ?_ hbase.clean
      · rw [hws, List.forall_mem_singleton]
        exact if_pos rfl
      · rw [hws, List.forall_mem_singleton]
        exact fun hp => absurd hp hnp
    · exact hbase
  | set p a =>
    simp only [ctorCheck, Bool.and_eq_true, beq_iff_eq] at hchk
    obtain ⟨rfl, hm⟩ := hchk
    split at hm
    · rename_i s hfs
      rw [ctorStep_set E t args o hfs] at hstep ⊢
      obtain ⟨hs, rfl⟩ := findSetter_mem t p s hfs
      have has := List.all_eq_true.mp hat s hs
      obtain ⟨hg, _, he⟩ := setWith_ok E t s o (args s.prop) (atomicSetter_spec has).1 hstep
      obtain ⟨hown, hframe⟩ := setWith_fields E t hsw s hs (atomicSetter_spec has).1 o _ hstep
      refine ⟨_, _, hm, hinv.call hu hs hframe hown (atomic_writes_pos E hc has hg) fun hb => ?_⟩
      rw [he] at hstep ⊢
      exact refresh_clean E t s (List.all_eq_true.mp hcov s hs) o _ hstep fun hrb =>
        hinv.clean (by simpa [hrb] using hb)
    · cases hm
  | checkRange a b => exact ⟨called, built, hchk, hinv⟩
  | other txt => exact ⟨called, built, hchk, hinv⟩
  | unknown txt => simp [ctorCheck] at hchk

end CtorSteps

theorem ctor_sound (E : Ext α) (hc : 0 < E.c) (t : Cls) (hcov : coveredB t = true) (hat : atomicB t = true)
    (hu : propsUniqueB t = true) (hsw : singleWriterB t = true) (args : String → α)
    (ops : List CtorOp) (called : List String) (built : Bool) (o : Obj α)
    (hchk : ctorCheck t ops called built = true) (hinv : CInv E t args called built o)
    (hrun : (runCtorFrom E t args o ops).2 = .ok) :
    ∃ called', (∀ s ∈ t.setters, s.prop ∈ called') ∧ CInv E t args called' true (runCtorFrom E t args o ops).1 := by
  induction ops generalizing called built o with
  | nil =>
    simp only [ctorCheck, Bool.and_eq_true, List.all_eq_true, decide_eq_true_eq] at hchk
    obtain ⟨rfl, hall⟩ := hchk
    exact ⟨called, hall, hinv⟩
  | cons op rest ih =>
    obtain ⟨hstep, heq⟩ := runCtorFrom_cons_ok E t args o op rest hrun
    obtain ⟨called', built', hchk', hinv'⟩ := ctorStep_inv E t args o hc hcov hat hu hsw hchk hinv hstep
    rw [heq] at hrun ⊢
    exact ih called' built' _ hchk' hinv' hrun

/-- all setter-written fields hold what the setters compute from `params` -/
def Agrees (E : Ext α) (t : Cls) (params : String → α) (o : Obj α) : Prop :=
  ∀ s ∈ t.setters, ∀ w ∈ s.writes, o.fields w.1 = evalRhs E w.2 (params s.prop)

/-- a successfully constructed object is clean, satisfies the inner constructors' requirements, and its fields are
what the setters compute from the constructor arguments -/
theorem ctor_establishes (E : Ext α) (hc : 0 < E.c) (t : Cls) (hcov : coveredB t = true) (hat : atomicB t = true)
    (hu : propsUniqueB t = true) (hsw : singleWriterB t = true) (hctor : ctorOkB t = true)
    (hpw : positiveWrittenB t = true) (args : String → α) (hrun : (runCtor E t args).2 = .ok) :
    Clean t (runCtor E t args).1 ∧ Pos t (runCtor E t args).1 ∧ Agrees E t args (runCtor E t args).1 := by
  have hinv0 : CInv E t args [] false (blank : Obj α) :=
    ⟨fun s _ hc' => absurd hc' (by simp), fun h => absurd h (by simp), fun s _ hc' => absurd hc' (by simp)⟩
  obtain ⟨called', hall, hinv⟩ := ctor_sound E hc t hcov hat hu hsw args t.ctor [] false blank hctor hinv0 hrun
  refine ⟨hinv.clean rfl, ?_, fun s hs w hw => hinv.agrees s hs (hall s hs) w hw⟩
  intro f hf
  have := List.all_eq_true.mp hpw f hf
  simp only [List.any_eq_true, beq_iff_eq] at this
  obtain ⟨s, hs, w, hw, hwf⟩ := this
  subst hwf
  exact hinv.pos s hs (hall s hs) w hw hf

/-- `Q` is any property of the ghost parameters that survives recording a value which the guard of its setter accepted:
`True` for `history_agrees`, `ParamsOk t` for `history_agrees_ok` -/
theorem history_agrees_of (E : Ext α) (hc : 0 < E.c) (t : Cls) (hcov : coveredB t = true) (hat : atomicB t = true)
    (hu : propsUniqueB t = true) (hsw : singleWriterB t = true) (Q : (String → α) → Prop)
    (hQ : ∀ o params s v, Agrees E t params o → Q params → s ∈ t.setters → guardOk s.guard o.fields v = true →
      Q (upd params s.prop v))
    (ops : List (String × α)) (o : Obj α) (hcl : Clean t o) (hp : Pos t o) (params : String → α)
    (ha : Agrees E t params o) (hq : Q params) : ∃ params', Agrees E t params' (runOps E t o ops) ∧ Q params' := by
  refine (runOps_induction E t (fun o => Clean t o ∧ Pos t o ∧ ∃ params, Agrees E t params o ∧ Q params)
    (fun o p v ⟨hcl, hp, params, ha, hq⟩ => ?_) ops o ⟨hcl, hp, params, ha, hq⟩).2.2
  obtain ⟨h1, h2, h3⟩ := setProp_step E hc t hcov hat o p v hcl hp
  refine ⟨h1, h2, ?_⟩
  rcases h3 with h | ⟨s, hs, rfl, he, hok⟩
  · rw [h]; exact ⟨params, ha, hq⟩
  · have hgf := (atomicSetter_spec (List.all_eq_true.mp hat s hs)).1
    obtain ⟨hown, hframe⟩ := setWith_fields E t hsw s hs hgf o v hok
    rw [he]
    refine ⟨upd params s.prop v, fun s' hs' w hw => ?_, hQ o params s v ha hq hs (setWith_ok E t s o v hgf hok).1⟩
    by_cases hp : s'.prop = s.prop
    · obtain rfl := propsUnique_spec hu hs' hs hp
      rw [hown w hw, upd, if_pos rfl]
    · rw [hframe s' hs' hp w hw, ha s' hs' w hw, upd, if_neg hp]

theorem history_agrees (E : Ext α) (hc : 0 < E.c) (t : Cls) (hcov : coveredB t = true) (hat : atomicB t = true)
    (hu : propsUniqueB t = true) (hsw : singleWriterB t = true) (ops : List (String × α)) (o : Obj α)
    (hcl : Clean t o) (hp : Pos t o) (params : String → α) (ha : Agrees E t params o) :
    ∃ params', Agrees E t params' (runOps E t o ops) :=
  (history_agrees_of E hc t hcov hat hu hsw (fun _ => True) (fun _ _ _ _ _ _ _ _ => trivial) ops o hcl hp params ha
    trivial).imp fun _ h => h.1

/-- what the object reports for the parameter (= constructor argument) `a`: the field its getter `a` returns -/
def reported (t : Cls) (o : Obj α) : String → α := fun a =>
  match t.getters.find? fun g => g.name == a with
  | some g => o.fields g.field
  | none => 0

/-- the getter named like a setter returns the field that setter stores the raw value in -/
def gettersOwnB (t : Cls) : Bool :=
  t.setters.all fun s =>
    match s.writes, t.getters.find? fun g => g.name == s.prop with
    | (f, .value) :: _, some g => g.field == f
    | _, _ => false

theorem reported_eq (E : Ext α) (t : Cls) (hg : gettersOwnB t = true) (params : String → α) (o : Obj α)
    (ha : Agrees E t params o) : ∀ s ∈ t.setters, reported t o s.prop = params s.prop := by
  intro s hs
  have := List.all_eq_true.mp hg s hs
  unfold reported
  split at this
  · rename_i f _ g hw hfind
    have this : g.field = f := by simpa using this
    have h2 := ha s hs (f, .value) (by rw [hw]; simp)
    rw [hfind]
    show o.fields g.field = params s.prop
    rw [this, h2]; rfl
  · cases this

/-- fields `evaluate` reads -/
def evalFields (k : EvalKind) : List String :=
  match k with
  | .gauss => ["_normalisation", "_mean", "_recip_stddev"]
  | .constStep => ["_min_wavelength", "_max_wavelength"]
  | _ => []

/-- fields of the class formula that the energy density / binned spectrum reads from the captured state -/
def snapFields (t : Cls) : List String :=
  if t.isSpectrum then
    ["_min_wavelength", "_max_wavelength", "_bins"] ++
      (match t.binPsd with
       | .gaussErf => ["_mean", "_norm_cdf"]
       | .trapezoid => evalFields t.evaluate
       | _ => [])
  else if t.name = "UniformEnergyDensity" then ["_energy_density"]
  else if t.name = "ConstantBivariateGaussian" then ["_pulse_energy", "_pulse_length", "_stddev_x", "_stddev_y"]
  else if t.name = "TrivariateGaussian" then ["_pulse_energy", "_mean_z", "_stddev_x", "_stddev_y", "_stddev_z"]
  else if t.name = "GaussianBeamAxisymmetric" then
    ["_pulse_energy", "_pulse_length", "_laser_wavelength", "_waist_z", "_stddev_waist"]
  else []

/-- fields `spectrum(x)` reads live -/
def liveFields (t : Cls) : List String := evalFields t.evaluate

def writtenBySome (t : Cls) (f : String) : Bool := t.setters.any fun s => s.writes.any fun w => w.1 == f

def cacheOutputs : List String := ["_delta_wavelength", "_wavelengths", "_power_spectral_density"]

def profileNames : List String :=
  ["UniformEnergyDensity", "ConstantBivariateGaussian", "TrivariateGaussian", "GaussianBeamAxisymmetric"]

/-- the class formulas only look at fields the rebuild captures, and everything observable is setter-controlled -/
def observedOkB (t : Cls) : Bool :=
  (t.isSpectrum || decide (t.name ∈ profileNames)) &&
  ((snapFields t).all fun f => decide (f ∈ t.rebuildReads) && writtenBySome t f) &&
  ((liveFields t).all fun f => writtenBySome t f) &&
  (t.geometryReads.all fun f => writtenBySome t f) &&
  (t.getters.all fun g =>
    if t.isSpectrum then writtenBySome t g.field || decide (g.field ∈ cacheOutputs)
    else writtenBySome t g.field && !decide (g.field ∈ cacheOutputs))

/-- all observations of the property's `observe_at` list -/
structure ObsEq (E : Ext α) (t : Cls) (o1 o2 : Obj α) : Prop where
  density : t.isSpectrum = false → ∀ x y z, energyDensity E t o1 x y z = energyDensity E t o2 x y z
  geometry : geometry E t o1 = geometry E t o2
  getter : ∀ g, getter E t o1 g = getter E t o2 g
  getterList : t.isSpectrum = true → ∀ g, getterList E t o1 g = getterList E t o2 g
  evaluate : t.isSpectrum = true → ∀ x, specEvaluate E t o1 x = specEvaluate E t o2 x

theorem evalFn_congr (E : Ext α) (t : Cls) (f1 f2 : String → α) (h : ∀ f ∈ evalFields t.evaluate, f1 f = f2 f) :
    evalFn E t f1 = evalFn E t f2 := by
  unfold evalFn
  cases hk : t.evaluate <;> simp only [hk, evalFields] at h ⊢
  · rw [h "_min_wavelength" (by simp), h "_max_wavelength" (by simp)]
  · rw [h "_normalisation" (by simp), h "_mean" (by simp), h "_recip_stddev" (by simp)]

theorem specBinPsd_congr (E : Ext α) (t : Cls) (hs : t.isSpectrum = true) (o1 o2 : Obj α)
    (hsnap : ∀ f ∈ snapFields t, o1.snap f = o2.snap f) :
    (o1.snap "_min_wavelength" = o2.snap "_min_wavelength" ∧
      o1.snap "_max_wavelength" = o2.snap "_max_wavelength" ∧ o1.snap "_bins" = o2.snap "_bins") ∧
      specBinPsd E t o1.snap = specBinPsd E t o2.snap := by
  rw [snapFields, if_pos hs] at hsnap
  simp only [List.cons_append, List.nil_append, List.forall_mem_cons] at hsnap
  obtain ⟨e1, e2, e3, h⟩ := hsnap
  refine ⟨⟨e1, e2, e3⟩, ?_⟩
  unfold specBinPsd
  cases hk : t.binPsd <;> simp only [hk, List.forall_mem_cons] at h ⊢
  · rw [evalFn_congr E t o1.snap o2.snap h]
  · rw [h.1, h.2.1, e1, e2, e3]
  · rw [e1, e2]

theorem energyDensity_congr (E : Ext α) (t : Cls) (hs : t.isSpectrum = false) (o1 o2 : Obj α)
    (hsnap : ∀ f ∈ snapFields t, o1.snap f = o2.snap f) (x y z : α) :
    energyDensity E t o1 x y z = energyDensity E t o2 x y z := by
  rw [snapFields, if_neg (hs ▸ Bool.false_ne_true)] at hsnap
  unfold energyDensity
  -- class by class (`split_ifs` is slow on the string tests)
  by_cases n1 : t.name = "UniformEnergyDensity"
  · simp only [if_pos n1] at hsnap ⊢
    exact hsnap _ List.mem_cons_self
  rw [if_neg n1] at hsnap
  by_cases n2 : t.name = "ConstantBivariateGaussian"
  · simp only [if_neg n1, if_pos n2, List.forall_mem_cons] at hsnap ⊢
    rw [hsnap.1, hsnap.2.1, hsnap.2.2.1, hsnap.2.2.2.1]
  rw [if_neg n2] at hsnap
  by_cases n3 : t.name = "TrivariateGaussian"
  · simp only [if_neg n1, if_neg n2, if_pos n3, List.forall_mem_cons] at hsnap ⊢
    rw [hsnap.1, hsnap.2.1, hsnap.2.2.1, hsnap.2.2.2.1, hsnap.2.2.2.2.1]
  rw [if_neg n3] at hsnap
  by_cases n4 : t.name = "GaussianBeamAxisymmetric"
  · simp only [if_neg n1, if_neg n2, if_neg n3, if_pos n4, List.forall_mem_cons] at hsnap ⊢
    rw [hsnap.1, hsnap.2.1, hsnap.2.2.1, hsnap.2.2.2.1, hsnap.2.2.2.2.1]
  simp only [if_neg n1, if_neg n2, if_neg n3, if_neg n4]

theorem obs_congr (E : Ext α) (t : Cls) (hobs : observedOkB t = true) (o1 o2 : Obj α)
    (hsnap : ∀ f ∈ snapFields t, o1.snap f = o2.snap f)
    (hfld : ∀ f, writtenBySome t f = true → o1.fields f = o2.fields f) : ObsEq E t o1 o2 := by
  simp only [observedOkB, Bool.and_eq_true, List.all_eq_true, Bool.or_eq_true, decide_eq_true_eq] at hobs
  obtain ⟨⟨⟨⟨h0, h1⟩, h2⟩, h3⟩, h4⟩ := hobs
  refine ⟨fun hs => energyDensity_congr E t hs o1 o2 hsnap, ?_, fun g => ?_, fun hs g => ?_, fun hs x => ?_⟩
  · unfold Cherab.Laser.geometry
    split
    · rename_i r l hgeo
      rw [hfld r (h3 r (by rw [hgeo]; simp)), hfld l (h3 l (by rw [hgeo]; simp))]
    · rfl
  · unfold Cherab.Laser.getter
    cases hfind : t.getters.find? (fun g' => g'.name == g) with
    | none => rfl
    | some gt =>
      have h4g := h4 gt (List.mem_of_find?_eq_some hfind)
      simp only [Option.bind]
      split_ifs with c1 c2
      · -- `_delta_wavelength` is a cache output: only a spectrum may report it
        cases hs : t.isSpectrum with
        | true =>
          obtain ⟨e1, e2, e3⟩ := (specBinPsd_congr E t hs o1 o2 hsnap).1
          simp only [specDelta, e1, e2, e3]
        | false => simp [hs, cacheOutputs, c1] at h4g
      · rfl
      · -- any other reported field is under the control of a setter
        have hw : writtenBySome t gt.field = true := by
          cases hs : t.isSpectrum <;> simpa [hs, cacheOutputs, c1, not_or.mp c2] using h4g
        rw [hfld _ hw]
  · obtain ⟨⟨e1, e2, e3⟩, hb⟩ := specBinPsd_congr E t hs o1 o2 hsnap
    unfold Cherab.Laser.getterList
    cases hfind : t.getters.find? (fun g' => g'.name == g) with
    | none => rfl
    | some gt =>
      simp only [Option.bind, specWavelengths, specPsd, e1, e2, e3, hb]
  · unfold specEvaluate
    rw [evalFn_congr E t o1.fields o2.fields (fun f hf => hfld f (h2 f hf))]

theorem obsEq_of_clean_agrees (E : Ext α) (t : Cls) (hobs : observedOkB t = true) (o o' : Obj α)
    (hcl : Clean t o) (hcl' : Clean t o') (params params' : String → α) (ha : Agrees E t params o)
    (ha' : Agrees E t params' o') (hpar : ∀ s ∈ t.setters, params s.prop = params' s.prop) : ObsEq E t o o' := by
  have hfld : ∀ f, writtenBySome t f = true → o.fields f = o'.fields f := by
    intro f hf
    simp only [writtenBySome, List.any_eq_true, beq_iff_eq] at hf
    obtain ⟨s, hs, w, hw, rfl⟩ := hf
    rw [ha s hs w hw, ha' s hs w hw, hpar s hs]
  refine obs_congr E t hobs o o' (fun f hf => ?_) hfld
  -- a captured field is read by the rebuild, so it equals the current field, which some setter controls
  simp only [observedOkB, Bool.and_eq_true, List.all_eq_true, decide_eq_true_eq] at hobs
  obtain ⟨hr, hw⟩ := hobs.1.1.1.2 f hf
  rw [hcl f hr, hcl' f hr]
  exact hfld f hw

/-- **history_eq_fresh** — the clause "after any sequence of parameter changes the energy density, geometry, binned
spectrum and reported parameters equal those of a freshly constructed object", for every class table that passes
the decidable checks: construct with any arguments, apply any sequence of assignments (accepted or rejected);
construct a second object from the parameters the first one *reports*; if that construction is accepted then every
observation of the two objects coincides. -/
theorem history_eq_fresh (E : Ext α) (hc : 0 < E.c) (t : Cls) (hcov : coveredB t = true) (hat : atomicB t = true)
    (hu : propsUniqueB t = true) (hsw : singleWriterB t = true) (hctor : ctorOkB t = true)
    (hpw : positiveWrittenB t = true) (hgo : gettersOwnB t = true) (hobs : observedOkB t = true)
    (args : String → α) (ops : List (String × α)) (hrun : (runCtor E t args).2 = .ok)
    (hfresh : (runCtor E t (reported t (runOps E t (runCtor E t args).1 ops))).2 = .ok) :
    ObsEq E t (runOps E t (runCtor E t args).1 ops)
      (runCtor E t (reported t (runOps E t (runCtor E t args).1 ops))).1 := by
  obtain ⟨hcl0, hp0, ha0⟩ := ctor_establishes E hc t hcov hat hu hsw hctor hpw args hrun
  obtain ⟨hcl, hp⟩ := history_clean E hc t hcov hat ops _ hcl0 hp0
  obtain ⟨params, ha⟩ := history_agrees E hc t hcov hat hu hsw ops _ hcl0 hp0 args ha0
  obtain ⟨hcl', _, ha'⟩ := ctor_establishes E hc t hcov hat hu hsw hctor hpw _ hfresh
  exact obsEq_of_clean_agrees E t hobs _ _ hcl hcl' params _ ha ha' fun s hs => (reported_eq E t hgo params _ ha s hs).symm

end Fresh

section Abstract

/-! ## the same statement at the level of the generic invalidation theory (`Model/Invalidation.lean`)

parameters = property names, caches = {the rebuilt energy function / binned spectrum, the geometry held by whoever
listens to `notifier`} -/

inductive Cache where
  | rebuilt | geometry
  deriving DecidableEq, Repr

def writesGeometry (t : Cls) (s : Setter) : Bool := s.writes.any fun w => decide (w.1 ∈ t.geometryReads)
def hasNotify (s : Setter) : Bool := s.refresh.any fun r => r == .notify
/-- every setter that changes the radius / length used by `generate_geometry` notifies the listeners -/
def geometryCoveredB (t : Cls) : Bool := t.setters.all fun s => !writesGeometry t s || hasNotify s

def protoOf (t : Cls) : Inval.Proto String Cache where
  deps := fun c => match c with
    | .rebuilt => (t.setters.filter (writesRead t)).map (·.prop)
    | .geometry => (t.setters.filter (writesGeometry t)).map (·.prop)
  clears := fun p => match findSetter t p with
    | none => []
    | some s => (if hasRebuild s then [Cache.rebuilt] else []) ++ (if hasNotify s then [Cache.geometry] else [])

theorem clears_of_mem (t : Cls) (hu : propsUniqueB t = true) (s : Setter) (hs : s ∈ t.setters) :
    (protoOf t).clears s.prop =
      (if hasRebuild s then [Cache.rebuilt] else []) ++ (if hasNotify s then [Cache.geometry] else []) := by
  simp only [protoOf, findSetter_of_mem t hu s hs]

/-- the table conditions give `Covered` of the induced protocol -/
theorem covered_of_table (t : Cls) (hu : propsUniqueB t = true) (hcov : coveredB t = true)
    (hgeo : geometryCoveredB t = true) : Inval.Covered (protoOf t) := by
  intro c p hp
  cases c with
  | rebuilt =>
    simp only [protoOf, List.mem_map, List.mem_filter] at hp
    obtain ⟨s, ⟨hs, hw⟩, rfl⟩ := hp
    have := List.all_eq_true.mp hcov s hs
    simp only [hw, Bool.not_true, Bool.false_or] at this
    simp [clears_of_mem t hu s hs, this]
  | geometry =>
    simp only [protoOf, List.mem_map, List.mem_filter] at hp
    obtain ⟨s, ⟨hs, hw⟩, rfl⟩ := hp
    have := List.all_eq_true.mp hgeo s hs
    simp only [hw, Bool.not_true, Bool.false_or] at this
    simp [clears_of_mem t hu s hs, this]

/-- after any interleaving of assignments and observations, an observation of either cache equals the from-scratch
observation of the final configuration (version-counter abstraction of `history_clean`) -/
theorem no_stale_histories (t : Cls) (hu : propsUniqueB t = true) (hcov : coveredB t = true)
    (hgeo : geometryCoveredB t = true) (ops : List (Inval.Op String Cache)) (c : Cache) :
    let s := Inval.run (protoOf t) Inval.init ops
    (Inval.step (protoOf t) s (.obs c)).2 = some (((protoOf t).deps c).map s.ver) :=
  Inval.no_stale (protoOf t) (covered_of_table t hu hcov hgeo) ops c

/-- conversely, a setter that writes a field the rebuild reads but does not rebuild yields a two-step history
(observe, assign) after which the observation is stale -/
theorem stale_of_uncovered (t : Cls) (hu : propsUniqueB t = true) (s : Setter) (hs : s ∈ t.setters)
    (hw : writesRead t s = true) (hn : hasRebuild s = false) :
    let st := Inval.run (protoOf t) Inval.init [.obs Cache.rebuilt, .set s.prop]
    (Inval.step (protoOf t) st (.obs Cache.rebuilt)).2 ≠ some (((protoOf t).deps Cache.rebuilt).map st.ver) := by
  apply Inval.stale_witness
  · simp only [protoOf, List.mem_map, List.mem_filter]
    exact ⟨s, ⟨hs, hw⟩, rfl⟩
  · simp [clears_of_mem t hu s hs, hn]

end Abstract

section Witness
variable {α : Type} [Field α] [LinearOrder α] [IsStrictOrderedRing α]

/-- if a setter stores its value in a field the rebuild reads and performs no rebuild, then assigning any accepted
value different from the current one makes the cached function disagree with the fields: the counter-example
behind a failing `covered_*` obligation, replayed on the real class by the harness -/
theorem uncovered_setter_goes_stale (E : Ext α) (t : Cls) (s : Setter) (hfs : findSetter t s.prop = some s)
    (hgf : s.guardFirst = true) (hn : hasRebuild s = false) (f : String) (hw : s.writes = [(f, Rhs.value)])
    (hf : f ∈ t.rebuildReads) (o : Obj α) (hcl : Clean t o) (v : α) (hg : guardOk s.guard o.fields v = true)
    (hv : v ≠ o.fields f) :
    (setProp E t o s.prop v).2 = .ok ∧ ¬ Clean t (setProp E t o s.prop v).1 := by
  simp only [setProp, hfs]
  rw [setWith_guardFirst E t s o v hgf, if_pos hg]
  obtain ⟨hsnap, hok⟩ := runRefresh_no_rebuild_snap t
    ({ o with fields := applyWrites E s.writes o.fields v } : Obj α) s.refresh hn
  refine ⟨hok, ?_⟩
  intro hcl'
  have h1 := hcl' f hf
  rw [hsnap, runRefresh_fields] at h1
  simp only [hw, applyWrites, List.foldl_cons, List.foldl_nil, write, if_true, evalRhs] at h1
  exact hv (h1.symm.trans (hcl f hf))

end Witness

section Constructible
variable {α : Type} [Field α] [LinearOrder α] [IsStrictOrderedRing α]

def isRangeGuard : Guard → Bool
  | .rangeMin | .rangeMax => true
  | _ => false
def isCheckRange : CtorOp → Bool
  | .checkRange _ _ => true
  | _ => false
def usesRange (t : Cls) : Bool := t.ctor.any isCheckRange || t.setters.any fun s => isRangeGuard s.guard

/-- the wavelength range is handled by the two setters `min_wavelength` / `max_wavelength` (which store the raw value
in `_min_wavelength` / `_max_wavelength`) and by `_check_wavelength_validity(min_wavelength, max_wavelength)` in the
constructor, and by nothing else -/
def rangeShapeB (t : Cls) : Bool :=
  (t.setters.all fun s =>
     (s.guard != .rangeMin || (s.prop == "min_wavelength" && s.writes == [("_min_wavelength", Rhs.value)])) &&
     (s.guard != .rangeMax || (s.prop == "max_wavelength" && s.writes == [("_max_wavelength", Rhs.value)])) &&
     (s.prop != "min_wavelength" || !usesRange t || s.guard == .rangeMin) &&
     (s.prop != "max_wavelength" || !usesRange t || s.guard == .rangeMax)) &&
  (!usesRange t ||
     ((findSetter t "min_wavelength").isSome && (findSetter t "max_wavelength").isSome &&
      t.ctor.contains (CtorOp.checkRange "min_wavelength" "max_wavelength"))) &&
  (t.ctor.all fun op => match op with
    | .checkRange a b => a == "min_wavelength" && b == "max_wavelength"
    | _ => true)

/-- every positivity-guarded setter is run by the constructor with the argument of its own name -/
def ctorSetsPositiveB (t : Cls) : Bool :=
  t.setters.all fun s => s.guard != .positive || t.ctor.contains (CtorOp.set s.prop s.prop)

/-- abstract run of the constructor tracking which fields are known to be positive: at every rebuild all fields the
inner constructor insists on must already be positive (literal initialisation or a guarded setter) -/
def ctorPosCheck (t : Cls) : List CtorOp → List String → Bool
  | [], _ => true
  | .init f m _ :: rest, known => ctorPosCheck t rest (if 0 < m then f :: known else known.filter (· != f))
  | .initArg f _ :: rest, known => ctorPosCheck t rest (known.filter (· != f))
  | .set p a :: rest, known =>
    match findSetter t p with
    | some s =>
      (s.guard == .none || s.guard == .positive) && p == a &&
        (!hasRebuild s || t.rebuildPositive.all fun f => decide (f ∈ s.writes.map (·.1) ++ known)) &&
        ctorPosCheck t rest (s.writes.map (·.1) ++ known)
    | none => false
  | .checkRange _ _ :: rest, known => ctorPosCheck t rest known
  | .other _ :: rest, known => ctorPosCheck t rest known
  | .unknown _ :: _, _ => false

/-- what the guards demand of a parameter valuation -/
def ParamsOk (t : Cls) (params : String → α) : Prop :=
  (∀ s ∈ t.setters, s.guard = .positive → 0 < params s.prop) ∧
  (usesRange t = true → rangeOk (params "min_wavelength") (params "max_wavelength") = true)

theorem ctor_ok_step (E : Ext α) (t : Cls) (args : String → α) (ops : List CtorOp) (o : Obj α)
    (hrun : (runCtorFrom E t args o ops).2 = .ok) (op : CtorOp) (hop : op ∈ ops) :
    ∃ o', (ctorStep E t args o' op).2 = .ok := by
  induction ops generalizing o with
  | nil => simp at hop
  | cons op' rest ih =>
    obtain ⟨hstep, heq⟩ := runCtorFrom_cons_ok E t args o op' rest hrun
    rcases List.mem_cons.mp hop with h | h
    · subst h; exact ⟨o, hstep⟩
    · rw [heq] at hrun; exact ih _ hrun h

/-- an accepted construction shows that the arguments satisfy the guards -/
theorem ctor_params_ok (E : Ext α) (t : Cls) (hat : atomicB t = true) (hu : propsUniqueB t = true)
    (hcp : ctorSetsPositiveB t = true) (hrs : rangeShapeB t = true) (args : String → α)
    (hrun : (runCtor E t args).2 = .ok) : ParamsOk t args := by
  constructor
  · intro s hs hg
    have h1 := List.all_eq_true.mp hcp s hs
    simp only [hg, bne_self_eq_false, Bool.false_or, List.contains_iff_mem] at h1
    obtain ⟨o', hstep⟩ := ctor_ok_step E t args t.ctor blank hrun _ h1
    rw [ctorStep_set E t args o' (findSetter_of_mem t hu s hs)] at hstep
    have := (setWith_ok E t s o' (args s.prop) (atomicSetter_spec (List.all_eq_true.mp hat s hs)).1 hstep).1
    rwa [hg, guard_positive_ok] at this
  · intro hur
    simp only [rangeShapeB, Bool.and_eq_true, hur, Bool.not_true, Bool.false_or, List.contains_iff_mem] at hrs
    obtain ⟨⟨_, ⟨_, hmem⟩⟩, _⟩ := hrs
    obtain ⟨o', hstep⟩ := ctor_ok_step E t args t.ctor blank hrun _ hmem
    simp only [ctorStep] at hstep
    by_contra hne
    simp [hne] at hstep

theorem range_setters (t : Cls) (hrs : rangeShapeB t = true) (hur : usesRange t = true) :
    (∃ s ∈ t.setters, s.prop = "min_wavelength" ∧ s.guard = .rangeMin ∧ s.writes = [("_min_wavelength", Rhs.value)]) ∧
    (∃ s ∈ t.setters, s.prop = "max_wavelength" ∧ s.guard = .rangeMax ∧ s.writes = [("_max_wavelength", Rhs.value)]) := by
  simp only [rangeShapeB, Bool.and_eq_true, hur, Bool.not_true, Bool.false_or, List.all_eq_true, Bool.or_eq_true,
    bne_iff_ne, ne_eq, beq_iff_eq, Bool.false_eq_true] at hrs
  obtain ⟨⟨hall, ⟨⟨hmin, hmax⟩, _⟩⟩, _⟩ := hrs
  constructor
  · obtain ⟨s, hs⟩ := Option.isSome_iff_exists.mp hmin
    obtain ⟨hmem, hp⟩ := findSetter_mem t _ s hs
    obtain ⟨⟨⟨h1, _⟩, h3⟩, _⟩ := hall s hmem
    have hg : s.guard = .rangeMin := by simpa [hp] using h3
    exact ⟨s, hmem, hp, hg, (h1.resolve_left (not_not_intro hg)).2⟩
  · obtain ⟨s, hs⟩ := Option.isSome_iff_exists.mp hmax
    obtain ⟨hmem, hp⟩ := findSetter_mem t _ s hs
    obtain ⟨⟨⟨_, h2⟩, _⟩, h4⟩ := hall s hmem
    have hg : s.guard = .rangeMax := by simpa [hp] using h4
    exact ⟨s, hmem, hp, hg, (h2.resolve_left (not_not_intro hg)).2⟩

theorem paramsOk_upd (E : Ext α) (t : Cls) (hu : propsUniqueB t = true) (hrs : rangeShapeB t = true) (o : Obj α)
    (params : String → α) (s : Setter) (v : α) (ha : Agrees E t params o) (hpo : ParamsOk t params)
    (hs : s ∈ t.setters) (hg : guardOk s.guard o.fields v = true) : ParamsOk t (upd params s.prop v) := by
  constructor
  · intro s' hs' hg'
    by_cases hpp : s'.prop = s.prop
    · obtain rfl := propsUnique_spec hu hs' hs hpp
      rw [hg', guard_positive_ok] at hg
      simpa [upd] using hg
    · simp only [upd, hpp, if_false]
      exact hpo.1 s' hs' hg'
  · intro hur
    obtain ⟨⟨smin, hsmin, pmin, gmin, wmin⟩, ⟨smax, hsmax, pmax, gmax, wmax⟩⟩ := range_setters t hrs hur
    have fmin := ha smin hsmin ("_min_wavelength", Rhs.value) (by rw [wmin]; exact List.mem_singleton.mpr rfl)
    have fmax := ha smax hsmax ("_max_wavelength", Rhs.value) (by rw [wmax]; exact List.mem_singleton.mpr rfl)
    rw [pmin] at fmin; rw [pmax] at fmax
    by_cases hmin : s.prop = "min_wavelength"
    · obtain rfl := propsUnique_spec hu hs hsmin (hmin.trans pmin.symm)
      rw [gmin] at hg
      simpa [upd, hmin, guardOk, fmax, evalRhs] using hg
    · by_cases hmax : s.prop = "max_wavelength"
      · obtain rfl := propsUnique_spec hu hs hsmax (hmax.trans pmax.symm)
        rw [gmax] at hg
        simpa [upd, hmax, guardOk, fmin, evalRhs] using hg
      · simpa [upd, Ne.symm hmin, Ne.symm hmax] using hpo.2 hur

theorem history_agrees_ok (E : Ext α) (hc : 0 < E.c) (t : Cls) (hcov : coveredB t = true) (hat : atomicB t = true)
    (hu : propsUniqueB t = true) (hsw : singleWriterB t = true) (hrs : rangeShapeB t = true)
    (ops : List (String × α)) (o : Obj α) (hcl : Clean t o) (hp : Pos t o) (params : String → α)
    (ha : Agrees E t params o) (hpo : ParamsOk t params) :
    ∃ params', Agrees E t params' (runOps E t o ops) ∧ ParamsOk t params' :=
  history_agrees_of E hc t hcov hat hu hsw (ParamsOk t) (paramsOk_upd E t hu hrs) ops o hcl hp params ha hpo

def KnownPos (t : Cls) (known : List String) (o : Obj α) : Prop :=
  ∀ f ∈ known, f ∈ t.rebuildPositive → 0 < o.fields f

theorem knownPos_write {t : Cls} {known : List String} {o : Obj α} (hk : KnownPos t known o) (f : String) (x : α) :
    KnownPos t (known.filter (· != f)) { o with fields := write o.fields f x } := by
  intro g hg hgp
  simp only [List.mem_filter, bne_iff_ne, ne_eq] at hg
  simp only [write, hg.2, if_false]
  exact hk g hg.1 hgp

theorem knownPos_write_pos {t : Cls} {known : List String} {o : Obj α} (hk : KnownPos t known o) (f : String)
    (x : α) (hx : 0 < x) : KnownPos t (f :: known) { o with fields := write o.fields f x } := by
  intro g hg hgp
  by_cases hgf : g = f
  · simp only [write, hgf, if_true]; exact hx
  · simp only [write, hgf, if_false]; exact hk g ((List.mem_cons.mp hg).resolve_left hgf) hgp

theorem lit_pos (m e : Nat) (hm : 0 < m) : (0 : α) < lit m e := by
  unfold lit
  rw [← Rat.cast_ofScientific (K := α), Rat.cast_pos]
  show (0 : ℚ) < Rat.ofScientific m true e
  rw [Rat.ofScientific_true_def, Rat.mkRat_eq_div]
  have : (0 : ℚ) < (m : ℚ) := by exact_mod_cast hm
  positivity

/-- a valuation that satisfies the guards is accepted by the constructor -/
theorem ctor_succeeds (E : Ext α) (hc : 0 < E.c) (t : Cls) (hat : atomicB t = true) (hrs : rangeShapeB t = true)
    (args : String → α) (hpo : ParamsOk t args) (ops : List CtorOp) (hsub : ∀ op ∈ ops, op ∈ t.ctor)
    (known : List String) (o : Obj α) (hchk : ctorPosCheck t ops known = true) (hk : KnownPos t known o) :
    (runCtorFrom E t args o ops).2 = .ok := by
  induction ops generalizing known o with
  | nil => rfl
  | cons op rest ih =>
    have hsub' : ∀ op' ∈ rest, op' ∈ t.ctor := fun op' h => hsub op' (by simp [h])
    cases op with
    | init f m e =>
      simp only [ctorPosCheck] at hchk
      split_ifs at hchk with hm
      · exact ih hsub' _ _ hchk (knownPos_write_pos hk f _ (lit_pos m e hm))
      · exact ih hsub' _ _ hchk (knownPos_write hk f _)
    | initArg f a => exact ih hsub' _ _ hchk (knownPos_write hk f _)
    | set p a =>
      simp only [ctorPosCheck] at hchk
      split at hchk
      · rename_i s hfs
        simp only [Bool.and_eq_true, Bool.or_eq_true, beq_iff_eq, Bool.not_eq_true', List.all_eq_true,
          decide_eq_true_eq] at hchk
        obtain ⟨⟨⟨hguard, rfl⟩, hreb⟩, hrest⟩ := hchk
        obtain ⟨hs, hsp⟩ := findSetter_mem t p s hfs
        have has := List.all_eq_true.mp hat s hs
        have hg : guardOk s.guard o.fields (args p) = true := by
          rcases hguard with h | h
          · rw [h]; rfl
          · rw [h, guard_positive_ok, ← hsp]; exact hpo.1 s hs h
        -- after the writes, the fields written and the known ones are positive
        have hk1 : ∀ g ∈ s.writes.map (·.1) ++ known, g ∈ t.rebuildPositive →
            0 < applyWrites E s.writes o.fields (args p) g := fun g hg' hgp =>
          applyWrites_pos E s.writes o.fields (args p) g
            (fun w hw hwg => atomic_writes_pos E hc has hg w hw (hwg ▸ hgp))
            ((List.mem_append.mp hg').symm.imp (fun h => hk g h hgp) List.mem_map.mp)
        rw [runCtorFrom_cons, ctorStep_set E t args o hfs, setWith_guardFirst E t s o _ (atomicSetter_spec has).1,
          if_pos hg, if_pos]
        · exact ih hsub' _ _ hrest fun g hg' hgp => by rw [runRefresh_fields]; exact hk1 g hg' hgp
        · cases hrb : hasRebuild s with
          | true => exact runRefresh_pos_ok t _ _ fun f hf => hk1 f ((hreb.resolve_left (by simp [hrb])) f hf) hf
          | false => exact (runRefresh_no_rebuild_snap t _ s.refresh hrb).2
      · cases hchk
    | checkRange a b =>
      simp only [ctorPosCheck] at hchk
      have hmem := hsub (.checkRange a b) (by simp)
      have hur : usesRange t = true := by
        simp only [usesRange, Bool.or_eq_true, List.any_eq_true]
        exact Or.inl ⟨_, hmem, rfl⟩
      have hnames : a = "min_wavelength" ∧ b = "max_wavelength" := by
        simp only [rangeShapeB, Bool.and_eq_true, List.all_eq_true] at hrs
        have := hrs.2 _ hmem
        simpa using this
      have hr := hpo.2 hur
      simp only [runCtorFrom, ctorStep, hnames.1, hnames.2, hr, if_true]
      exact ih hsub' _ _ hchk hk
    | other txt => exact ih hsub' _ _ hchk hk
    | unknown txt => simp [ctorPosCheck] at hchk

/-- **fresh_constructible**: whatever history an accepted object went through, the parameters it reports are
accepted by the constructor -/
theorem fresh_constructible (E : Ext α) (hc : 0 < E.c) (t : Cls) (hcov : coveredB t = true) (hat : atomicB t = true)
    (hu : propsUniqueB t = true) (hsw : singleWriterB t = true) (hctor : ctorOkB t = true)
    (hpw : positiveWrittenB t = true) (hgo : gettersOwnB t = true) (hrs : rangeShapeB t = true)
    (hcp : ctorSetsPositiveB t = true) (hpc : ctorPosCheck t t.ctor [] = true)
    (args : String → α) (ops : List (String × α)) (hrun : (runCtor E t args).2 = .ok) :
    (runCtor E t (reported t (runOps E t (runCtor E t args).1 ops))).2 = .ok := by
  obtain ⟨hcl0, hp0, ha0⟩ := ctor_establishes E hc t hcov hat hu hsw hctor hpw args hrun
  have hpo0 := ctor_params_ok E t hat hu hcp hrs args hrun
  obtain ⟨params, ha, hpo⟩ := history_agrees_ok E hc t hcov hat hu hsw hrs ops _ hcl0 hp0 args ha0 hpo0
  have hrep := reported_eq E t hgo params _ ha
  have hpo' : ParamsOk t (reported t (runOps E t (runCtor E t args).1 ops)) := by
    constructor
    · intro s hs hg; rw [hrep s hs]; exact hpo.1 s hs hg
    · intro hur
      obtain ⟨⟨smin, hsmin, pmin, _, _⟩, ⟨smax, hsmax, pmax, _, _⟩⟩ := range_setters t hrs hur
      rw [← pmin, ← pmax, hrep smin hsmin, hrep smax hsmax, pmin, pmax]
      exact hpo.2 hur
  exact ctor_succeeds E hc t hat hrs _ hpo' t.ctor (fun _ h => h) [] blank hpc
    (fun f hf _ => absurd hf (by simp))

/-- the decidable conditions on a class table under which the history clause holds -/
def tableOkB (t : Cls) : Bool :=
  coveredB t && atomicB t && propsUniqueB t && singleWriterB t && ctorOkB t && positiveWrittenB t && gettersOwnB t &&
    observedOkB t && rangeShapeB t && ctorSetsPositiveB t && ctorPosCheck t t.ctor []

/-- **history_eq_fresh_total** — the history clause at full strength for any class table passing the decidable
checks: construct with any accepted arguments, apply any sequence of assignments (accepted or rejected, any values);
the object constructed from the parameters the first one reports *is accepted* and every observation of the two
coincides. -/
theorem history_eq_fresh_total (E : Ext α) (hc : 0 < E.c) (t : Cls) (hok : tableOkB t = true)
    (args : String → α) (ops : List (String × α)) (hrun : (runCtor E t args).2 = .ok) :
    (runCtor E t (reported t (runOps E t (runCtor E t args).1 ops))).2 = .ok ∧
    ObsEq E t (runOps E t (runCtor E t args).1 ops)
      (runCtor E t (reported t (runOps E t (runCtor E t args).1 ops))).1 := by
  simp only [tableOkB, Bool.and_eq_true] at hok
  obtain ⟨⟨⟨⟨⟨⟨⟨⟨⟨⟨hcov, hat⟩, hu⟩, hsw⟩, hctor⟩, hpw⟩, hgo⟩, hobs⟩, hrs⟩, hcp⟩, hpc⟩ := hok
  have hfresh := fresh_constructible E hc t hcov hat hu hsw hctor hpw hgo hrs hcp hpc args ops hrun
  exact ⟨hfresh, history_eq_fresh E hc t hcov hat hu hsw hctor hpw hgo hobs args ops hrun hfresh⟩

end Constructible

section Scattering
variable {α : Type} [Field α] [LinearOrder α] [IsStrictOrderedRing α]

/-! ### what the scattering model reads: `power_mv[i] = psd[i]·Δλ`, one entry per bin -/

/-- **per-bin power = power spectral density × bin width**, for every bin density function and every bin -/
theorem power_is_psd_times_delta (f : α → α → α) (lo hi : α) (n i : Nat) (h : i < (powerList f lo hi n).length)
    (h' : i < (psdList f lo hi n).length) :
    (powerList f lo hi n)[i] = (psdList f lo hi n)[i] * delta lo hi n := by
  simp [powerList]

/-- the scattered signal the model accumulates, `Σ_bins c(λ_bin)·power_bin` (c = any per-wavelength response) -/
def scattered (c : α → α) (wl pw : List α) : α := sumList ((wl.zip pw).map fun x => c x.1 * x.2)

/-- when every bin scatters alike the model sees exactly the total power (the harness's "degenerate range" oracle) -/
theorem scattered_flat_response (c0 : α) (wl pw : List α) (hlen : wl.length = pw.length) :
    scattered (fun _ => c0) wl pw = c0 * sumList pw := by
  unfold scattered
  have : (wl.zip pw).map (fun x => c0 * x.2) = pw.map fun x => x * c0 := by
    apply List.ext_getElem
    · simp [hlen]
    · intro i h1 h2; simp [mul_comm]
  rw [this, sumList_map_mul, mul_comm]

/-- … hence a constant spectrum on its support, and a Gaussian line with `erf` of the two range ends ±1, hand the
scattering model total power one through any flat response -/
theorem scattered_constant_total (c0 lo hi : α) (n : Nat) (hn : 0 < n) (hlt : lo < hi) :
    scattered (fun _ => c0) (wavelengths lo hi n) (powerList (trapezoidPsd (constEval lo hi)) lo hi n) = c0 := by
  rw [scattered_flat_response _ _ _ (by simp [wavelengths, powerList_length]), const_total_power_one lo hi n hn hlt, mul_one]

theorem scattered_gauss_total (erf : α → α) (c0 mean k lo hi : α) (n : Nat) (hn : 0 < n) (hlt : lo < hi)
    (hhi : erf ((hi - mean) * k) = 1) (hlo : erf ((lo - mean) * k) = -1) :
    scattered (fun _ => c0) (wavelengths lo hi n) (powerList (gaussBinPsd erf mean k (delta lo hi n)) lo hi n) = c0 := by
  rw [scattered_flat_response _ _ _ (by simp [wavelengths, powerList_length]),
    spectrum_bins_telescope erf mean k lo hi n hn hlt, hhi, hlo]
  norm_num

/-- Gaussian bin powers are non-negative and sum to at most one, for any monotone `erf` bounded by 1 -/
theorem gauss_bin_power_nonneg (erf : α → α) (hmono : Monotone erf) (mean k lo hi : α) (hk : 0 ≤ k) (n i : Nat)
    (hn : 0 < n) (hlt : lo < hi) (h : i < (powerList (gaussBinPsd erf mean k (delta lo hi n)) lo hi n).length)
    (h' : i < (bins lo hi n).length) :
    0 ≤ (powerList (gaussBinPsd erf mean k (delta lo hi n)) lo hi n)[i] := by
  have he := List.getElem_mem h'
  have hab : (bins lo hi n)[i].1 ≤ (bins lo hi n)[i].2 :=
    sub_nonneg.mp (bins_width he ▸ (delta_pos lo hi n hn hlt).le)
  rw [powerList_getElem _ _ _ _ _ h h', gauss_bin_power erf mean k _ _ _ (delta_pos lo hi n hn hlt).ne', ← mul_sub]
  exact mul_nonneg (by norm_num) (sub_nonneg.mpr (hmono (mul_le_mul_of_nonneg_right (sub_le_sub_right hab _) hk)))

theorem gauss_total_power_le_one (erf : α → α) (hb : ∀ x, |erf x| ≤ 1) (mean k lo hi : α) (n : Nat) (hn : 0 < n)
    (hlt : lo < hi) : sumList (powerList (gaussBinPsd erf mean k (delta lo hi n)) lo hi n) ≤ 1 := by
  rw [spectrum_bins_telescope erf mean k lo hi n hn hlt]
  have h1 := abs_le.mp (hb ((hi - mean) * k))
  have h2 := abs_le.mp (hb ((lo - mean) * k))
  norm_num
  linarith

-- non-vacuity: erf := clamp to [-1, 1] is monotone and bounded
example : sumList (powerList (gaussBinPsd (fun x : ℚ => max (-1) (min 1 x)) 2 1 (delta 1 3 4)) 1 3 4) ≤ 1 :=
  gauss_total_power_le_one _ (fun x => by
    rw [abs_le]; constructor
    · exact le_max_left _ _
    · exact max_le (by norm_num) (min_le_left _ _)) 2 1 1 3 4 (by norm_num) (by norm_num)

end Scattering

section PathIndependence
variable {α : Type} [Field α] [LinearOrder α] [IsStrictOrderedRing α]

theorem ObsEq.symm {E : Ext α} {t : Cls} {o1 o2 : Obj α} (h : ObsEq E t o1 o2) : ObsEq E t o2 o1 :=
  ⟨fun hs x y z => (h.density hs x y z).symm, h.geometry.symm, fun g => (h.getter g).symm,
   fun hs g => (h.getterList hs g).symm, fun hs x => (h.evaluate hs x).symm⟩

theorem ObsEq.trans {E : Ext α} {t : Cls} {o1 o2 o3 : Obj α} (h : ObsEq E t o1 o2) (h' : ObsEq E t o2 o3) :
    ObsEq E t o1 o3 :=
  ⟨fun hs x y z => (h.density hs x y z).trans (h'.density hs x y z), h.geometry.trans h'.geometry,
   fun g => (h.getter g).trans (h'.getter g), fun hs g => (h.getterList hs g).trans (h'.getterList hs g),
   fun hs x => (h.evaluate hs x).trans (h'.evaluate hs x)⟩

/-- **path independence**: two objects of a class whose table passes the checks, reached by ANY two accepted
constructions followed by ANY two assignment histories (constructor arguments equal to defaults / pre-seeded literals,
repeated values, rejected values all included), are observationally equal as soon as they report the same parameters —
in particular "constructed with v" ≡ "constructed with w, then set to v". -/
theorem history_path_independent (E : Ext α) (hc : 0 < E.c) (t : Cls) (hok : tableOkB t = true)
    (args1 args2 : String → α) (ops1 ops2 : List (String × α))
    (h1 : (runCtor E t args1).2 = .ok) (h2 : (runCtor E t args2).2 = .ok)
    (hrep : reported t (runOps E t (runCtor E t args1).1 ops1) = reported t (runOps E t (runCtor E t args2).1 ops2)) :
    ObsEq E t (runOps E t (runCtor E t args1).1 ops1) (runOps E t (runCtor E t args2).1 ops2) := by
  have e1 := (history_eq_fresh_total E hc t hok args1 ops1 h1).2
  have e2 := (history_eq_fresh_total E hc t hok args2 ops2 h2).2
  rw [hrep] at e1
  exact e1.trans e2.symm

end PathIndependence

/-! ### subscriptions: exactly one, on the profile currently held -/
section Subscriptions

/-- laser `l` is registered on profile `p` exactly once if it holds `p`, and not at all otherwise -/
def SubInv (s : Scene) : Prop := ∀ l p, (s.subs p).count l = if s.cur l = some p then 1 else 0

theorem subInv_empty : SubInv emptyScene := by
  intro l p; simp [emptyScene]

theorem count_notifierAdd (subs : List Nat) (l k : Nat) (h : subs.count l ≤ 1) :
    (notifierAdd subs l).count k = if k = l then 1 else subs.count k := by
  unfold notifierAdd
  by_cases hm : l ∈ subs
  · simp only [hm, if_true]
    split
    · rename_i hk; subst hk
      have := List.count_pos_iff.mpr hm
      omega
    · rfl
  · simp only [hm, if_false, List.count_append]
    split
    · rename_i hk; subst hk
      simp [List.count_eq_zero_of_not_mem hm]
    · rename_i hk
      simp [Ne.symm hk]

theorem count_notifierRemove (subs : List Nat) (l k : Nat) :
    (notifierRemove subs l).count k = if k = l then subs.count l - 1 else subs.count k := by
  unfold notifierRemove
  split
  · rename_i hk; subst hk; simp [List.count_erase_self]
  · rename_i hk; exact List.count_erase_of_ne hk

/-- the subscriptions after the unsubscribe step of the setter -/
def afterRemove (s : Scene) (l : Nat) : Nat → List Nat :=
  match s.cur l with
  | some q => fun x => if x = q then notifierRemove (s.subs q) l else s.subs x
  | none => s.subs

theorem count_afterRemove (s : Scene) (h : SubInv s) (l x k : Nat) :
    (afterRemove s l x).count k = if k = l then 0 else (s.subs x).count k := by
  unfold afterRemove
  cases hc : s.cur l with
  | none =>
    simp only
    split
    · rename_i hk; subst hk; rw [h k x, hc]; simp
    · rfl
  | some q0 =>
    simp only
    by_cases hx : x = q0
    · subst hx
      simp only [if_true]
      rw [count_notifierRemove]
      split
      · rw [h l x, hc]; simp
      · rfl
    · simp only [hx, if_false]
      split
      · rename_i hk; subst hk; rw [h k x, hc]
        have : ¬ (some q0 = some x) := fun e => hx (Option.some.inj e).symm
        simp [this]
      · rfl

theorem attach_eq (s : Scene) (l p : Nat) :
    attach s l p = { subs := fun x => if x = p then notifierAdd (afterRemove s l p) l else afterRemove s l x,
                     cur := fun k => if k = l then some p else s.cur k } := by
  unfold attach afterRemove
  cases s.cur l <;> rfl

/-- one (re)assignment keeps the invariant — also when the same profile object is assigned again -/
theorem attach_inv (s : Scene) (h : SubInv s) (l p : Nat) : SubInv (attach s l p) := by
  intro k q
  rw [attach_eq]
  simp only
  by_cases hq : q = p
  · subst hq
    simp only [if_true]
    rw [count_notifierAdd _ _ _ (by rw [count_afterRemove s h]; simp)]
    by_cases hkl : k = l
    · simp [hkl]
    · simp only [hkl, if_false]
      rw [count_afterRemove s h]
      simp only [hkl, if_false]
      exact h k q
  · simp only [hq, if_false]
    rw [count_afterRemove s h]
    by_cases hkl : k = l
    · have : ¬ (some p = some q) := fun e => hq (Option.some.inj e).symm
      simp [hkl, this]
    · simp only [hkl, if_false]
      exact h k q

/-- **exactly one subscription after any history of (re)assignments**, on any number of lasers and profiles,
shared profiles and re-assignment of the same profile included -/
theorem attach_history_inv (ops : List (Nat × Nat)) (s : Scene) (h : SubInv s) : SubInv (attachAll s ops) := by
  induction ops generalizing s with
  | nil => exact h
  | cons op rest ih => obtain ⟨l, p⟩ := op; exact ih _ (attach_inv s h l p)

/-- so a change of the held profile always reaches the laser (and no other profile's notifier does) -/
theorem notified_iff_holds (ops : List (Nat × Nat)) (l p : Nat) :
    l ∈ (attachAll emptyScene ops).subs p ↔ (attachAll emptyScene ops).cur l = some p := by
  have := attach_history_inv ops emptyScene subInv_empty l p
  rw [← List.count_pos_iff, this]
  split <;> simp_all

-- non-vacuity, and the seeded ordering as a counter-example: re-assigning the same profile loses the subscription
example : (attachAll emptyScene [(0, 5), (0, 5), (1, 5), (0, 7)]).subs 5 = [1] := by decide
example : (attachSwapped (attach emptyScene 0 5) 0 5).subs 5 = [] := by decide
example : (attach (attach emptyScene 0 5) 0 5).subs 5 = [0] := by decide

/-- a notification reaches every live observer exactly as often as it is registered, whatever dead (collected)
observers are registered before or after it, and afterwards only the live registrations remain -/
theorem notify_reaches_every_live_observer (alive : Nat → Bool) (subs : List Nat) (l : Nat) (hl : alive l = true) :
    (notifyRun alive subs).1.count l = subs.count l ∧ (notifyRun alive subs).2 = subs.filter alive := by
  refine ⟨?_, rfl⟩
  simp only [notifyRun]
  rw [List.count_filter hl]

/-- with the subscription invariant: after any (re)assignment history, whichever lasers have since been discarded, a
change of profile `p` is delivered exactly once to every surviving laser that holds `p` -/
theorem surviving_holder_is_notified_once (ops : List (Nat × Nat)) (alive : Nat → Bool) (l p : Nat)
    (hl : alive l = true) (hh : (attachAll emptyScene ops).cur l = some p) :
    (notifyRun alive ((attachAll emptyScene ops).subs p)).1.count l = 1 := by
  rw [(notify_reaches_every_live_observer alive _ l hl).1,
    attach_history_inv ops emptyScene subInv_empty l p, hh]
  simp

-- non-vacuity: laser 0 (registered first) is dead, laser 1 alive; and the seeded purge-in-loop misses laser 1
example : (notifyRun (fun l => l == 1) ((attachAll emptyScene [(0, 5), (1, 5)]).subs 5)).1 = [1] := by decide
example : notifyPurgeInLoop (fun l => l == 1) ((attachAll emptyScene [(0, 5), (1, 5)]).subs 5) = [] := by decide

end Subscriptions

/-! ## non-vacuity: concrete instances over ℚ -/
section Examples

def qExt : Ext ℚ := { c := 299792458, pi := 3, sqrt := fun x => x, exp := fun _ => 1, erf := fun x => x,
                      floorDiv := fun a b => ⌊a / b⌋, toNat := fun x => ⌊x⌋.toNat }

-- L = 5, r = 1: two segments of height 5/2 ; L = 1 < 2r: a single segment of height 1
example : (generateSegmentedCylinder qExt 1 5).map (·.map fun s => (s.z0, s.height, s.radius))
    = some [(0, 5/2, 1), (5/2, 5/2, 1)] := by decide +kernel
example : (generateSegmentedCylinder qExt 1 1).map (·.map fun s => (s.z0, s.height, s.radius))
    = some [(0, 1, 1)] := by decide +kernel
-- constant spectrum on [1,3] with 4 bins: psd 1/2 in every bin, total power 1
example : psdList (trapezoidPsd (constEval (1 : ℚ) 3)) 1 3 4 = [1/2, 1/2, 1/2, 1/2] := by decide +kernel
example : sumList (powerList (trapezoidPsd (constEval (1 : ℚ) 3)) 1 3 4) = 1 := by decide +kernel
-- telescoping with erf := id, mean 2, k = 1: ½((3−2) − (1−2)) = 1
example : sumList (powerList (gaussBinPsd (fun x : ℚ => x) 2 1 (delta 1 3 4)) 1 3 4) = 1 := by decide +kernel
example : bins (1 : ℚ) 3 4 = [(1, 3/2), (3/2, 2), (2, 5/2), (5/2, 3)] := by decide +kernel
example : wavelengths (1 : ℚ) 3 4 = [5/4, 7/4, 9/4, 11/4] := by decide +kernel

end Examples

end Cherab.Props.C18
