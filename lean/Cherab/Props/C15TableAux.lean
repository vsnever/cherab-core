import Cherab.Model.Groups
import Cherab.Gen.GroupTable
import Cherab.Lemmas.Groups

/-!
# C15 — table obligations that tolerate an explicit list of open findings

`table_wf_partial`: every descriptor is admissible except those listed in `openExceptions`.  The list is written by
hand and mirrors those *open* C15 entries of `known_findings.json` that are about a mis-wired property.  There are none
(finding #10 of DESIGN §6, `@sensitivity.setter def names` in `SpectroscopicSightLineGroup`, is fixed in /repo, 1f71919;
the open `member-of-two-groups` entries are not about descriptors), so `Cherab.Props.C15Table.table_wf` is
`table_wf_partial` with nothing excepted.  A mis-wired property accepted as a known finding is listed here by its
(class, attribute) pairs; a slip that is not listed breaks the proof.
Also here: every descriptor belongs to a declared class, and (class, attribute) keys are unique.
-/
namespace Cherab.Props.C15TableAux
open Cherab.Groups Cherab.Gen.GroupTable

/-- (class, attribute) pairs known to be mis-wired and accepted as open findings -/
def openExceptions : List (String × String) := []

theorem table_partial_all :
    table.all (fun d => d.admissible table || openExceptions.contains (d.cls, d.name)) = true := by decide +kernel

theorem table_wf_partial : ∀ d ∈ table, d.admissible table = true ∨ (d.cls, d.name) ∈ openExceptions := by
  intro d hd
  have h := List.all_eq_true.mp table_partial_all d hd
  exact (Bool.or_eq_true _ _ |>.mp h).imp_right List.contains_iff_mem.mp

/-- all broadcast attributes outside the open exceptions satisfy the hypothesis of the generic laws -/
theorem table_broadcast_wf_partial : ∀ d ∈ table, (d.cls, d.name) ∉ openExceptions →
    d.name ∉ ["names", "pipelines", "targets", "observers", "sight_lines", "foil_detectors"] → d.wfBroadcast = true :=
  fun d hd hex hn => (table_wf_partial d hd).elim (wfBroadcast_of_admissible · hn) (absurd · hex)

/-- every descriptor belongs to a declared class; every class declares its member type and the error of its `add` method -/
theorem classes_declared :
    (table.all fun d => classes.any fun c => c.name == d.cls) = true ∧
    (classes.all fun c => !c.accepted.isEmpty && c.addErr != .other) = true := by decide +kernel

theorem names_distinct_per_class :
    (classes.all fun c => decide ((table.filter fun d => d.cls == c.name).map (·.name)).Nodup) = true := by decide +kernel

/-- (class, attribute) keys are unique, so `findDesc` returns *the* descriptor -/
theorem table_lookup : ∀ d ∈ table, findDesc table d.cls d.name = some d := by
  intro d hd
  obtain ⟨c, hc, hcd⟩ := List.any_eq_true.mp (List.all_eq_true.mp classes_declared.1 d hd)
  have h := of_decide_eq_true (List.all_eq_true.mp names_distinct_per_class c hc)
  rw [beq_iff_eq.mp hcd] at h
  exact findDesc_self hd h

end Cherab.Props.C15TableAux
