import Cherab.Model.BeamDensity
import Cherab.Lemmas.BeamDensity
import Cherab.Lemmas.Gaussian
import Cherab.Lemmas.BeamTrapezoid

/-!
# C04 — beam density conserves particles, decays monotonically, follows its envelope

The property theorems; the lemmas about the model's functions they rest on are in `Cherab/Lemmas/BeamDensity.lean`,
`BeamTrapezoid.lean` (trapezoid error bound) and `Gaussian.lean` (Gaussian integral).
`sqrt`, `exp`, `tan`-values, `π`, `ceil` are parameters of the model; the hypotheses used about them are the structures
`Decay`, `Env`, `SqrtSpec` (plus `exp 0 = 1` where needed), discharged for `Real.sqrt`, `Real.exp`, `π` in
`section RealInst`; `ceil` is taken to be `⌈·⌉₊` of a `FloorRing` in `sample_spacing_le_step`.

Clause map of the property sentence:
* "integrated over the cross-section … equals the particle rate P/(E m) divided by the speed times exp(−∫S/v)":
  `cross_section_integral` (ℝ, the Gaussian integral is proved, not assumed) + `source_flux` +
  `flux_at_nodes_partial` (discretised integral: the code's cumulative trapezoid — partial, see there) +
  `flux_error_bound` (distance of that trapezoid sum from `∫S` for C² profiles) +
  `uniform_plasma_exact_at_nodes` (exact law where the trapezoid is exact);
* "S is the documented composite stopping coefficient": `beamStopping_documented`;
* "without stopping the flux is the same at every z for any divergence": `no_stopping_constant_flux`,
  `cross_section_flux_no_stopping`;
* "on-axis density never increases with z": `cumtrapz_monotone`, `line_density_antitone`, `on_axis_density_antitone`;
* "zero before the source, beyond the length, outside the clamp radius": `density_zero_outside`;
* "direction is a unit vector whose streamlines keep x/σx, y/σy constant": `direction_unit`,
  `direction_streamline`, `streamline_invariant_x/y`, `envelope_is_streamline`.
-/
namespace Cherab.Props.C04
set_option linter.unusedSectionVars false
set_option linter.unusedVariables false
open Cherab.BeamDensity Cherab.Lemmas.BeamDensity

variable {α : Type} [Field α] [LinearOrder α] [IsStrictOrderedRing α]

/-- `_beam_stopping` computes the documented `S = Σ_i Z_i n_i S_i(E_int,i , (Σ_j Z_j² n_j)/Z_i , T_i)` with
`E_int,i = |v_beam − v_i|² / (2e/amu)`. -/
theorem beamStopping_documented (sqrt : α → α) (cf : α) (bv : Vec α) (ts : List (Target α)) :
    beamStopping sqrt cf bv ts =
      (ts.map fun s => (s.charge : α) * s.n *
        s.rate ((vlen sqrt (vsub bv s.v)) ^ 2 / cf)
               ((ts.map fun j => (j.charge : α) ^ 2 * j.n).sum / (s.charge : α)) s.t).sum := by
  rw [beamStopping_eq_sum, densitySum_eq_sum]
  refine congrArg _ (List.map_congr_left fun s _ => ?_)
  simp only [stoppingTerm, rateArgs, evAmuToMSInv]
  rw [pow_two, mul_comm s.n]

theorem beamStopping_nonneg (sqrt : α → α) (cf : α) (bv : Vec α) (ts : List (Target α))
    (hn : ∀ s ∈ ts, 0 ≤ s.n) (hr : ∀ s ∈ ts, ∀ e n t, 0 ≤ s.rate e n t) :
    0 ≤ beamStopping sqrt cf bv ts := by
  rw [beamStopping_eq_sum]
  exact List.sum_nonneg (List.forall_mem_map.mpr fun s hs =>
    mul_nonneg (mul_nonneg (hn s hs) (Nat.cast_nonneg _)) (hr s hs _ _ _))

theorem beamStopping_zero (sqrt : α → α) (cf : α) (bv : Vec α) (ts : List (Target α))
    (hr : ∀ s ∈ ts, ∀ e n t, s.rate e n t = 0) : beamStopping sqrt cf bv ts = 0 := by
  rw [beamStopping_eq_sum]
  exact List.sum_eq_zero (List.forall_mem_map.mpr fun s hs => (congrArg _ (hr s hs _ _ _)).trans (mul_zero _))

/-- a neutral species (Z = 0) contributes nothing whatever its rate returns (over a field; in floats the code
multiplies `0 · S_i(E, ±inf|nan, T)`, which is 0 only for a finite rate value — see notes/C04.md) -/
theorem neutral_term_zero (sqrt : α → α) (cf : α) (bv : Vec α) (ds : α) (s : Target α) (h : s.charge = 0) :
    stoppingTerm sqrt cf bv ds s = 0 := by
  unfold stoppingTerm
  rw [h, Nat.cast_zero, mul_zero, zero_mul]

theorem sample_count_ge_four (ceilNat : α → Nat) (length step : α) : 4 ≤ sampleCount ceilNat length step :=
  le_max_right _ _

/-- the spacing of the sample points never exceeds the requested step -/
theorem sample_spacing_le_step [FloorRing α] (length step : α) (hs : 0 < step) (hl : 0 ≤ length) :
    length / ((sampleCount (fun x => ⌈x⌉₊) length step - 1 : Nat) : α) ≤ step := by
  have h1 : 1 + ⌈length / step⌉₊ ≤ sampleCount (fun x : α => ⌈x⌉₊) length step := le_max_left _ _
  have h4 := sample_count_ge_four (fun x : α => ⌈x⌉₊) length step
  have hpos : (0 : α) < ((sampleCount (fun x : α => ⌈x⌉₊) length step - 1 : Nat) : α) := pred_cast_pos _ (by omega)
  -- `L/(n-1) ≤ step` is `L/step ≤ n-1`, and `n-1 ≥ ⌈L/step⌉`
  rw [div_le_comm₀ hpos hs]
  exact (Nat.le_ceil (length / step)).trans (Nat.cast_le.mpr (by omega))

theorem node_formula (length : α) (n i : Nat) (hn : 2 ≤ n) :
    node length n i = (i : α) * (length / ((n - 1 : Nat) : α)) := by
  unfold node
  rw [if_neg (Nat.not_le.mpr hn), sub_zero, add_zero]
  by_cases h : i = n - 1
  · rw [if_pos h, h]
    exact (mul_div_cancel₀ length (pred_cast_pos n hn).ne').symm
  · rw [if_neg h]

theorem node_first (length : α) (n : Nat) (hn : 2 ≤ n) : node length n 0 = 0 := by
  rw [node_formula length n 0 hn, Nat.cast_zero, zero_mul]

theorem node_last (length : α) (n : Nat) (hn : 2 ≤ n) : node length n (n - 1) = length := by
  unfold node
  rw [if_neg (by omega), if_pos rfl]

theorem node_strictMono (length : α) (n : Nat) (hn : 2 ≤ n) (hl : 0 < length) : StrictMono (node length n) := by
  intro i j hij
  rw [node_formula length n i hn, node_formula length n j hn]
  exact mul_lt_mul_of_pos_right (Nat.cast_lt.mpr hij) (div_pos hl (pred_cast_pos n hn))

theorem nodes_increasing (length : α) (n : Nat) (hn : 2 ≤ n) (hl : 0 < length) :
    (nodes length n).Pairwise (· < ·) := by
  unfold nodes
  rw [List.pairwise_map]
  exact List.pairwise_lt_range.imp fun hij => node_strictMono length n hn hl hij

/-- every sample point lies on the beam: `0 ≤ z_k ≤ length` -/
theorem nodes_in_range (length : α) (n : Nat) (hn : 2 ≤ n) (hl : 0 < length) :
    ∀ z ∈ nodes length n, 0 ≤ z ∧ z ≤ length := by
  intro z hz
  obtain ⟨i, hi, rfl⟩ := List.mem_map.mp hz
  have hmono := (node_strictMono length n hn hl).monotone
  exact ⟨(node_first length n hn).symm.trans_le (hmono (Nat.zero_le i)),
    (hmono (Nat.le_pred_of_lt (List.mem_range.mp hi))).trans_eq (node_last length n hn)⟩

/-- non-negative integrand on sorted abscissae ⇒ non-decreasing, non-negative cumulative trapezoid sums -/
theorem cumtrapz_monotone (pts : List (α × α)) (hx : pts.Pairwise (fun a b => a.1 ≤ b.1))
    (hy : ∀ p ∈ pts, 0 ≤ p.2) : (cumtrapz pts).Pairwise (· ≤ ·) ∧ ∀ c ∈ cumtrapz pts, 0 ≤ c := by
  cases pts with
  | nil => exact ⟨List.Pairwise.nil, fun c hc => by cases hc⟩
  | cons p rest =>
      obtain ⟨x0, y0⟩ := p
      have h := cumtrapzFrom_monotone rest 0 x0 y0 hx hy
      -- the sums start at 0 and are sorted
      exact ⟨h, List.forall_mem_cons.mpr ⟨le_rfl, (List.pairwise_cons.mp h).1⟩⟩

/-- hypotheses about the beam and the external functions used by the decay theorems -/
structure Decay (exp : α → α) (n0 speed : α) : Prop where
  exp_mono : ∀ a b, a ≤ b → exp a ≤ exp b
  exp_nonneg : ∀ a, 0 ≤ exp a
  n0_nonneg : 0 ≤ n0
  speed_pos : 0 < speed

/-- the attenuation samples are non-negative and never increase along the axis -/
theorem attenuate_antitone (exp : α → α) (n0 speed : α) (h : Decay exp n0 speed) (cum : List α)
    (hc : cum.Pairwise (· ≤ ·)) :
    (attenuate exp n0 speed cum).Pairwise (fun a b => b ≤ a) ∧ ∀ f ∈ attenuate exp n0 speed cum, 0 ≤ f := by
  unfold attenuate
  constructor
  · rw [List.pairwise_map]
    refine hc.imp ?_
    intro a b hab
    exact mul_le_mul_of_nonneg_left
      (h.exp_mono _ _ ((div_le_div_iff_of_pos_right h.speed_pos).mpr (neg_le_neg hab))) h.n0_nonneg
  · exact List.forall_mem_map.mpr fun c _ => mul_nonneg h.n0_nonneg (h.exp_nonneg _)

/-- the body of the model's `calcAttenuation` (the knots `_calc_attenuation` hands to the interpolator) with the stopping
coefficients as an argument: `calcAttenuation_eq`, by `rfl` -/
def lineKnots (exp : α → α) (n0 speed : α) (zs ss : List α) : List (α × α) :=
  zs.zip (attenuate exp n0 speed (cumtrapz (zs.zip ss)))

theorem calcAttenuation_eq (sqrt exp : α → α) (echarge amu energy power mass : α) (dir : Vec α) (zs : List α)
    (targets : List (List (Target α))) :
    calcAttenuation sqrt exp echarge amu energy power mass dir zs targets =
      lineKnots exp (sourceDensity sqrt echarge amu energy power mass) (beamSpeed sqrt echarge amu energy) zs
        (targets.map (beamStopping sqrt (evAmuFactor echarge amu)
          (beamVelocity sqrt dir (beamSpeed sqrt echarge amu energy)))) := rfl

theorem cumtrapz_zip_monotone {zs ss : List α} (hz : zs.Pairwise (· < ·)) (hs : ∀ s ∈ ss, 0 ≤ s) :
    (cumtrapz (zs.zip ss)).Pairwise (· ≤ ·) ∧ ∀ c ∈ cumtrapz (zs.zip ss), 0 ≤ c :=
  cumtrapz_monotone (zs.zip ss) ((pairwise_zip_fst hz).imp le_of_lt)
    fun p hp => hs p.2 (List.of_mem_zip hp).2

theorem lineKnots_sorted (exp : α → α) (n0 speed : α) (h : Decay exp n0 speed) (zs ss : List α)
    (hz : zs.Pairwise (· < ·)) (hs : ∀ s ∈ ss, 0 ≤ s) :
    (lineKnots exp n0 speed zs ss).Pairwise (fun a b => a.1 < b.1) ∧
    (lineKnots exp n0 speed zs ss).Pairwise (fun a b => b.2 ≤ a.2) ∧
    ∀ p ∈ lineKnots exp n0 speed zs ss, 0 ≤ p.2 := by
  obtain ⟨ha, hn⟩ := attenuate_antitone exp n0 speed h _ (cumtrapz_zip_monotone hz hs).1
  exact ⟨pairwise_zip_fst hz, pairwise_zip_snd ha, fun p hp => hn p.2 (List.of_mem_zip hp).2⟩

/-- **line density never increases**: for non-negative stopping coefficients the interpolated line density is
antitone in z (wherever the interpolator returns a value, extrapolation margin included) and non-negative. -/
theorem line_density_antitone (exp : α → α) (n0 speed range : α) (h : Decay exp n0 speed) (zs ss : List α)
    (hz : zs.Pairwise (· < ·)) (hs : ∀ s ∈ ss, 0 ≤ s) (z z' a b : α) (hzz : z ≤ z')
    (ha : interpEval range (lineKnots exp n0 speed zs ss) z = some a)
    (hb : interpEval range (lineKnots exp n0 speed zs ss) z' = some b) : b ≤ a ∧ 0 ≤ b := by
  obtain ⟨h1, h2, h3⟩ := lineKnots_sorted exp n0 speed h zs ss hz hs
  exact ⟨interpEval_antitone ⟨h1, h2⟩ hzz ha hb, interpEval_ge ⟨h1, h2⟩ h3 hb⟩

theorem attenuate_le_source {exp : α → α} {n0 speed : α} (h : Decay exp n0 speed) (hexp : exp 0 = 1) {cum : List α}
    (hc : ∀ c ∈ cum, 0 ≤ c) : ∀ f ∈ attenuate exp n0 speed cum, f ≤ n0 := by
  refine List.forall_mem_map.mpr fun c hcm => ?_
  have h1 : exp (-c / speed) ≤ 1 :=
    hexp ▸ h.exp_mono _ _ (div_nonpos_of_nonpos_of_nonneg (neg_nonpos.mpr (hc c hcm)) h.speed_pos.le)
  exact (mul_le_mul_of_nonneg_left h1 h.n0_nonneg).trans_eq (mul_one n0)

/-- **the attenuated line density never exceeds the source value** `n0 = P/(E m e)/v`, for non-negative stopping
coefficients over an arbitrary strictly increasing node list -/
theorem line_density_le_source (exp : α → α) (n0 speed range : α) (h : Decay exp n0 speed) (hexp : exp 0 = 1)
    (zs ss : List α) (hz : zs.Pairwise (· < ·)) (hs : ∀ s ∈ ss, 0 ≤ s) (z a : α)
    (ha : interpEval range (lineKnots exp n0 speed zs ss) z = some a) : a ≤ n0 := by
  obtain ⟨h1, h2, _⟩ := lineKnots_sorted exp n0 speed h zs ss hz hs
  exact interpEval_le ⟨h1, h2⟩ (fun p hp => attenuate_le_source h hexp
    (cumtrapz_zip_monotone hz hs).2 p.2 (List.of_mem_zip hp).2) ha

/-- `_source_density · v = P / (E m e)`: the flux at the source is the particle rate -/
theorem source_flux (sqrt : α → α) (echarge amu energy power mass : α) (hv : beamSpeed sqrt echarge amu energy ≠ 0) :
    sourceDensity sqrt echarge amu energy power mass * beamSpeed sqrt echarge amu energy
      = power / (energy * mass * echarge) := by
  unfold sourceDensity
  rw [div_mul_cancel₀ _ hv]
  rfl

/-- the beam speed is `√(2 E e / amu)` -/
theorem beam_speed_formula (sqrt : α → α) (echarge amu energy : α) :
    beamSpeed sqrt echarge amu energy = sqrt (energy * (2 * echarge / amu)) := by
  unfold beamSpeed evAmuToMS evAmuFactor
  rw [lit2]

/-- **discretised conservation law** (partial: the property's `exp(−∫₀ᶻ S/v)` with the integral replaced by the code's
cumulative trapezoid sum `c_k` over the sample points): at every sample point the interpolated line density is
`n0 · exp(−c_k / v)` exactly, i.e. flux `= P/(E m e) · exp(−c_k/v)`.  The distance between `c_k` and `∫₀^{z_k} S` is
the trapezoid error, at most `h²/12 · z_k · max|S''|` for C² profiles (`flux_error_bound`), with `h ≤ step`
(`sample_spacing_le_step`). -/
theorem flux_at_nodes_partial (exp : α → α) (n0 speed range : α) (hr : 0 ≤ range) (zs ss : List α)
    (hz : zs.Pairwise (· < ·)) :
    ∀ q ∈ zs.zip (cumtrapz (zs.zip ss)),
      interpEval range (lineKnots exp n0 speed zs ss) q.1 = some (n0 * exp (-q.2 / speed)) := by
  intro q hq
  have hmem : (q.1, n0 * exp (-q.2 / speed)) ∈ lineKnots exp n0 speed zs ss := by
    unfold lineKnots attenuate
    rw [List.zip_map_right]
    exact List.mem_map.mpr ⟨q, hq, rfl⟩
  exact interpEval_knot hr (pairwise_zip_fst hz) hmem

/-- in a uniform plasma (`S ≡ S₀` on the axis) the trapezoid is exact: at every sample point the line density is the
property's `n0 · exp(−S₀ (z − z₀)/v)` -/
theorem uniform_plasma_exact_at_nodes (exp : α → α) (n0 speed range s0 z0 : α) (hr : 0 ≤ range) (zs : List α)
    (hz : (z0 :: zs).Pairwise (· < ·)) :
    ∀ z ∈ z0 :: zs,
      interpEval range (lineKnots exp n0 speed (z0 :: zs) ((z0 :: zs).map fun _ => s0)) z
        = some (n0 * exp (-(s0 * (z - z0)) / speed)) := by
  intro z hzm
  refine flux_at_nodes_partial exp n0 speed range hr (z0 :: zs) _ hz (z, s0 * (z - z0)) ?_
  -- the cumulative sums of the constant `s0` are `s0 (z_k − z0)`
  rw [← List.map_prod_left_eq_zip, List.map_cons,
    cumtrapz_const s0 z0 _ (fun p hp => by obtain ⟨_, _, rfl⟩ := List.mem_map.mp hp; rfl),
    ← List.map_cons (f := fun x => (x, s0)), List.map_map, ← List.map_prod_left_eq_zip]
  exact List.mem_map_of_mem (f := fun a => (a, s0 * (a - z0))) hzm

/-- **no stopping ⇒ constant flux**: if the stopping coefficient vanishes at every sample point the line density
equals `n0` at every z of the interpolation domain, hence flux `= n0 · v = P/(E m e)` at every z.  Divergence does not
enter: the line density does not depend on it, and the cross-section integral of the density equals the line density
for every `σx, σy > 0` (`cross_section_integral`). -/
theorem no_stopping_constant_flux (exp : α → α) (n0 speed range : α) (hexp : exp 0 = 1) (zs ss : List α)
    (hs : ∀ s ∈ ss, s = 0) (z a : α) (ha : interpEval range (lineKnots exp n0 speed zs ss) z = some a) :
    a = n0 := by
  have hcum := cumtrapz_zero (zs.zip ss) fun p hp => hs p.2 (List.of_mem_zip hp).2
  refine interpEval_const (fun p hp => ?_) ha
  obtain ⟨c, hc, h⟩ := List.mem_map.mp (List.of_mem_zip hp).2
  rw [← h, hcum c hc, neg_zero, zero_div, hexp, mul_one]

/-- hypotheses about `sqrt`, `exp`, `π` used for the envelope -/
structure Env (sqrt exp : α → α) (pi : α) : Prop where
  sqrt_pos : ∀ s, 0 < s → 0 < sqrt s
  sqrt_mono : ∀ a b, a ≤ b → sqrt a ≤ sqrt b
  exp_nonneg : ∀ a, 0 ≤ exp a
  pi_pos : 0 < pi

theorem sigmaZ_pos {sqrt exp : α → α} {pi : α} (h : Env sqrt exp pi) {sigma tandiv z : α} (hs : 0 < sigma) :
    0 < sigmaZ sqrt sigma tandiv z :=
  h.sqrt_pos _ (sigmaSqr_pos sigma tandiv z hs)

/-- the envelope widens monotonically away from the source -/
theorem sigmaZ_mono (sqrt exp : α → α) (pi : α) (h : Env sqrt exp pi) (sigma tandiv z z' : α) (hz : 0 ≤ z) (hzz : z ≤ z') :
    sigmaZ sqrt sigma tandiv z ≤ sigmaZ sqrt sigma tandiv z' := by
  have hzt : z * tandiv * (z * tandiv) ≤ z' * tandiv * (z' * tandiv) := by
    rw [mul_mul_mul_comm, mul_mul_mul_comm z']
    exact mul_le_mul_of_nonneg_right (mul_self_le_mul_self hz hzz) (mul_self_nonneg _)
  exact h.sqrt_mono _ _ (add_le_add le_rfl hzt)

theorem gaussianSample_nonneg (sqrt exp : α → α) (pi : α) (h : Env sqrt exp pi) (sx sy x y : α) (hx : 0 < sx) (hy : 0 < sy) :
    0 ≤ gaussianSample exp pi sx sy x y := by
  unfold gaussianSample
  rw [lit2]
  have := h.exp_nonneg (-0.5 * normRadiusSqr sx sy x y)
  have := h.pi_pos
  positivity

theorem gaussianSample_axis_antitone {sqrt exp : α → α} {pi : α} (h : Env sqrt exp pi) {sx sy sx' sy' : α}
    (hx : 0 < sx) (hy : 0 < sy) (hxx : sx ≤ sx') (hyy : sy ≤ sy') :
    gaussianSample exp pi sx' sy' 0 0 ≤ gaussianSample exp pi sx sy 0 0 := by
  unfold gaussianSample
  rw [normRadiusSqr_zero, normRadiusSqr_zero, lit2]
  have h2 : 0 < 2 * pi := mul_pos two_pos h.pi_pos
  exact div_le_div_of_nonneg_left (h.exp_nonneg _) (mul_pos (mul_pos h2 hx) hy)
    (mul_le_mul (mul_le_mul_of_nonneg_left hxx h2.le) hyy hy.le (mul_nonneg h2.le (hx.trans_le hxx).le))

/-- **density = line density(z) × g(x, y, z)** with `g ≥ 0` the bivariate Gaussian of widths `σx(z), σy(z)`, wherever
the point is inside the z-range and not clamped away -/
theorem density_factorises (sqrt exp : α → α) (pi sigma tanx tany length : α) (clamp : Bool) (clampSqr : α)
    (line : α → Option α) (x y z : α) (hz : 0 ≤ z ∧ z ≤ length)
    (hc : clamp = false ∨ normRadiusSqr (sigmaZ sqrt sigma tanx z) (sigmaZ sqrt sigma tany z) x y ≤ clampSqr) :
    beamDensity sqrt exp pi sigma tanx tany length clamp clampSqr line x y z =
      (line z).map fun l => l * gaussianSample exp pi (sigmaZ sqrt sigma tanx z) (sigmaZ sqrt sigma tany z) x y := by
  unfold beamDensity attDensity
  rw [if_neg (by simp only [not_or, not_lt]; exact hz)]
  rcases hc with hc | hc
  · simp [hc]
  · simp [not_lt.mpr hc]

/-- **zero outside**: before the source, beyond the beam length and — with clamping on — outside the clamp radius -/
theorem density_zero_outside (sqrt exp : α → α) (pi sigma tanx tany length : α) (clamp : Bool) (clampSqr : α)
    (line : α → Option α) (x y z : α)
    (h : z < 0 ∨ length < z ∨
      (clamp = true ∧ clampSqr < normRadiusSqr (sigmaZ sqrt sigma tanx z) (sigmaZ sqrt sigma tany z) x y)) :
    beamDensity sqrt exp pi sigma tanx tany length clamp clampSqr line x y z = some 0 := by
  unfold beamDensity attDensity
  rcases h with h | h | ⟨hc, hr⟩
  · rw [if_pos (Or.inl h)]
  · rw [if_pos (Or.inr h)]
  · simp [hc, hr]

/-- **on-axis density never increases with z** (full pipeline: cumulative trapezoid, attenuation, interpolation,
Gaussian peak `1/(2π σx σy)`), for non-negative stopping coefficients -/
theorem on_axis_density_antitone (sqrt exp : α → α) (pi n0 speed range sigma tanx tany length clampSqr : α) (clamp : Bool)
    (hd : Decay exp n0 speed) (he : Env sqrt exp pi) (hsig : 0 < sigma) (hcl : 0 ≤ clampSqr)
    (zs ss : List α) (hzs : zs.Pairwise (· < ·)) (hs : ∀ s ∈ ss, 0 ≤ s)
    (z z' a b : α) (h0 : 0 ≤ z) (hzz : z ≤ z') (hl : z' ≤ length)
    (ha : beamDensity sqrt exp pi sigma tanx tany length clamp clampSqr
            (interpEval range (lineKnots exp n0 speed zs ss)) 0 0 z = some a)
    (hb : beamDensity sqrt exp pi sigma tanx tany length clamp clampSqr
            (interpEval range (lineKnots exp n0 speed zs ss)) 0 0 z' = some b) : b ≤ a := by
  have hcl' := fun sx sy : α => (normRadiusSqr_zero sx sy).trans_le hcl
  rw [density_factorises _ _ _ _ _ _ _ _ _ _ _ _ _ ⟨h0, le_trans hzz hl⟩ (Or.inr (hcl' _ _))] at ha
  rw [density_factorises _ _ _ _ _ _ _ _ _ _ _ _ _ ⟨le_trans h0 hzz, hl⟩ (Or.inr (hcl' _ _))] at hb
  obtain ⟨l, hl1, rfl⟩ := Option.map_eq_some_iff.mp ha
  obtain ⟨l', hl2, rfl⟩ := Option.map_eq_some_iff.mp hb
  obtain ⟨hll, hl'0⟩ := line_density_antitone exp n0 speed range hd zs ss hzs hs z z' l l' hzz hl1 hl2
  have hm := fun t => sigmaZ_mono sqrt exp pi he sigma t z z' h0 hzz
  -- both factors fall: the line density, and the Gaussian peak because the envelope widens
  exact mul_le_mul hll
    (gaussianSample_axis_antitone he (sigmaZ_pos he hsig) (sigmaZ_pos he hsig) (hm tanx) (hm tany))
    (gaussianSample_nonneg sqrt exp pi he _ _ 0 0 (sigmaZ_pos he hsig) (sigmaZ_pos he hsig)) (hl'0.trans hll)

/-- **the whole pipeline** (`Beam.density` on a fresh beam: stopping coefficients from the species samples, attenuation
table on the `linspace` nodes, interpolator with its 1e-9 margin, z-range clamp, Gaussian): on-axis density never
increases with z, for every plasma with non-negative densities and partial rates -/
theorem full_on_axis_antitone (sqrt exp : α → α) (pi echarge amu energy power mass : α) (dir : Vec α)
    (sigma tanx tany length clampSqr : α) (n : Nat) (clamp : Bool) (targets : List (List (Target α)))
    (hd : Decay exp (sourceDensity sqrt echarge amu energy power mass) (beamSpeed sqrt echarge amu energy))
    (he : Env sqrt exp pi) (hsig : 0 < sigma) (hcl : 0 ≤ clampSqr) (hn : 2 ≤ n) (hL : 0 < length)
    (htn : ∀ ts ∈ targets, ∀ s ∈ ts, 0 ≤ s.n) (htr : ∀ ts ∈ targets, ∀ s ∈ ts, ∀ e m t, 0 ≤ s.rate e m t)
    (z z' a b : α) (h0 : 0 ≤ z) (hzz : z ≤ z') (hl : z' ≤ length)
    (ha : beamDensityFull sqrt exp pi echarge amu energy power mass dir sigma tanx tany length n clamp clampSqr targets 0 0 z = some a)
    (hb : beamDensityFull sqrt exp pi echarge amu energy power mass dir sigma tanx tany length n clamp clampSqr targets 0 0 z' = some b) :
    b ≤ a := by
  unfold beamDensityFull at ha hb
  simp only [calcAttenuation_eq] at ha hb
  exact on_axis_density_antitone sqrt exp pi _ _ _ sigma tanx tany length clampSqr clamp hd he hsig hcl
    (nodes length n) _ (nodes_increasing length n hn hL)
    (List.forall_mem_map.mpr fun ts hts => beamStopping_nonneg sqrt _ _ ts (htn ts hts) (htr ts hts))
    z z' a b h0 hzz hl ha hb

/-- … and it vanishes before the source, beyond the length and outside the clamp radius -/
theorem full_zero_outside (sqrt exp : α → α) (pi echarge amu energy power mass : α) (dir : Vec α)
    (sigma tanx tany length clampSqr : α) (n : Nat) (clamp : Bool) (targets : List (List (Target α))) (x y z : α)
    (h : z < 0 ∨ length < z ∨
      (clamp = true ∧ clampSqr < normRadiusSqr (sigmaZ sqrt sigma tanx z) (sigmaZ sqrt sigma tany z) x y)) :
    beamDensityFull sqrt exp pi echarge amu energy power mass dir sigma tanx tany length n clamp clampSqr targets x y z = some 0 := by
  unfold beamDensityFull
  exact density_zero_outside sqrt exp pi sigma tanx tany length clamp clampSqr _ x y z h

/-- `sqrt` contract used for the direction -/
def SqrtSpec (sqrt : α → α) : Prop := ∀ s, 0 ≤ s → sqrt s * sqrt s = s ∧ 0 ≤ sqrt s

theorem SqrtSpec.pos {sqrt : α → α} (hs : SqrtSpec sqrt) {s : α} (h : 0 < s) : 0 < sqrt s := by
  obtain ⟨h1, h2⟩ := hs s h.le
  exact pos_of_mul_pos_right (h.trans_eq h1.symm) h2

theorem normSqr_vnormalise (sqrt : α → α) (hs : SqrtSpec sqrt) (a : Vec α) (ha : 0 < normSqr a) :
    normSqr (vnormalise sqrt a) = 1 := by
  rw [vnormalise_eq_vscale, normSqr_vscale, one_div_mul_one_div, (hs _ ha.le).1, mul_one_div_cancel ha.ne']

/-- **the direction is a unit vector** everywhere -/
theorem direction_unit (sqrt : α → α) (hs : SqrtSpec sqrt) (sigma tanx tany x y z : α) :
    normSqr (beamDirection sqrt sigma tanx tany x y z) = 1 := by
  unfold beamDirection
  split_ifs with h
  · simp [normSqr]
  · exact normSqr_vnormalise sqrt hs _ (normSqr_pos_of_axial_pos (directionRaw sigma tanx tany x y z) (not_le.mp h))

/-- **slope of the direction field**: for z > 0, `e_x/e_z = x · z tan²αx / σx(z)²` (and likewise in y), which is
`x · σx'(z)/σx(z)` because `σx σx' = z tan²αx` — see `streamline_invariant_x` for the calculus statement -/
theorem direction_streamline (sqrt : α → α) (hs : SqrtSpec sqrt) (sigma tanx tany x y z : α) (hz : 0 < z) (hsig : 0 < sigma) :
    let d := beamDirection sqrt sigma tanx tany x y z
    d.1 / d.2.2 = x * (z * tanx ^ 2) / (sigma ^ 2 + (z * tanx) ^ 2) ∧
    d.2.1 / d.2.2 = y * (z * tany ^ 2) / (sigma ^ 2 + (z * tany) ^ 2) ∧ 0 < d.2.2 := by
  intro d
  -- for `z > 0` the direction is `raw` scaled by `1/|raw| > 0`
  have ht := one_div_pos.mpr (hs.pos (normSqr_pos_of_axial_pos (directionRaw sigma tanx tany x y z) hz))
  rw [show d = vscale (directionRaw sigma tanx tany x y z) _ from if_neg (not_le.mpr hz)]
  -- the common factor `1/|raw|` cancels in the ratios; what is left is `raw.x / z`, `raw.y / z`
  exact ⟨(mul_div_mul_right _ _ ht.ne').trans (directionRaw_slope sigma tanx x z hz.ne'),
    (mul_div_mul_right _ _ ht.ne').trans (directionRaw_slope sigma tany y z hz.ne'), mul_pos hz ht⟩

/-- **one-zero divergence (sheet beam)**: with zero divergence in x the direction has no x-component anywhere — the
streamlines keep x itself (σx is constant) — whatever the y divergence; and symmetrically -/
theorem direction_sheet_x (sqrt : α → α) (sigma tany x y z : α) :
    (beamDirection sqrt sigma 0 tany x y z).1 = 0 := by
  unfold beamDirection
  split_ifs
  · rfl
  · simp only [vnormalise, directionRaw, mul_zero, zero_div, zero_mul]

theorem direction_sheet_y (sqrt : α → α) (sigma tanx x y z : α) :
    (beamDirection sqrt sigma tanx 0 x y z).2.1 = 0 := by
  unfold beamDirection
  split_ifs
  · rfl
  · simp only [vnormalise, directionRaw, mul_zero, zero_div, zero_mul]

/-- a linear isometry of velocity space: the rotation part of a rigid change of the plasma frame -/
structure IsRotation (R : Vec α → Vec α) : Prop where
  sub : ∀ a b, R (vsub a b) = vsub (R a) (R b)
  scale : ∀ a s, R (vscale a s) = vscale (R a) s
  norm : ∀ a, normSqr (R a) = normSqr a

/-- the same species sample seen from the rotated frame -/
def rotateTarget (R : Vec α → Vec α) (s : Target α) : Target α := { s with v := R s.v }

theorem IsRotation.vlen_sub {R : Vec α → Vec α} (hR : IsRotation R) (sqrt : α → α) (a b : Vec α) :
    vlen sqrt (vsub (R a) (R b)) = vlen sqrt (vsub a b) := by
  unfold vlen
  rw [← hR.sub, hR.norm]

theorem stoppingTerm_rotate (sqrt : α → α) (cf : α) {R : Vec α → Vec α} (hR : IsRotation R) (bv : Vec α) (ds : α)
    (s : Target α) : stoppingTerm sqrt cf (R bv) ds (rotateTarget R s) = stoppingTerm sqrt cf bv ds s := by
  simp only [stoppingTerm, rateArgs, rotateTarget, hR.vlen_sub]

theorem densitySum_rotate (R : Vec α → Vec α) (ts : List (Target α)) :
    densitySum (ts.map (rotateTarget R)) = densitySum ts := by
  rw [densitySum_eq_sum, densitySum_eq_sum, List.map_map]
  rfl

/-- **frame independence of the stopping coefficient**: rotating the plasma frame (beam velocity and every bulk
velocity by the same linear isometry) leaves `S` unchanged — only `|v_beam − v_i|` enters -/
theorem beamStopping_frame_independent (sqrt : α → α) (cf : α) (R : Vec α → Vec α) (hR : IsRotation R) (bv : Vec α)
    (ts : List (Target α)) :
    beamStopping sqrt cf (R bv) (ts.map (rotateTarget R)) = beamStopping sqrt cf bv ts := by
  rw [beamStopping_eq_sum, beamStopping_eq_sum, densitySum_rotate, List.map_map]
  exact congrArg _ (List.map_congr_left fun s _ => stoppingTerm_rotate sqrt cf hR bv _ s)

theorem beamVelocity_rotate (sqrt : α → α) (R : Vec α → Vec α) (hR : IsRotation R) (dir : Vec α) (speed : α) :
    beamVelocity sqrt (R dir) speed = R (beamVelocity sqrt dir speed) := by
  unfold beamVelocity
  rw [vnormalise_eq_vscale, vnormalise_eq_vscale, hR.norm, hR.scale, hR.scale]

/-- **frame independence of the attenuation table** (hence of `Beam.density`): a rigid change of the plasma frame —
translation only moves the sample points, whose sampled values are what the model receives; rotation acts on the axis
direction and on the bulk velocities — does not change the line-density knots -/
theorem calcAttenuation_frame_independent (sqrt exp : α → α) (echarge amu energy power mass : α) (R : Vec α → Vec α)
    (hR : IsRotation R) (dir : Vec α) (zs : List α) (targets : List (List (Target α))) :
    calcAttenuation sqrt exp echarge amu energy power mass (R dir) zs (targets.map (List.map (rotateTarget R)))
      = calcAttenuation sqrt exp echarge amu energy power mass dir zs targets := by
  simp only [calcAttenuation_eq, List.map_map]
  congr 2
  funext ts
  simp only [Function.comp, beamVelocity_rotate sqrt R hR]
  exact beamStopping_frame_independent sqrt _ R hR _ ts

-- non-vacuity: quarter turn about the z axis over ℚ
example : IsRotation (fun v : Vec ℚ => (-v.2.1, v.1, v.2.2)) :=
  ⟨fun a b => by simp only [vsub, neg_sub'], fun a s => by simp only [vscale, neg_mul],
    fun a => by simp only [normSqr, neg_mul_neg, add_comm (a.2.1 * a.2.1)]⟩


section RealInst
open MeasureTheory

theorem decay_real (n0 speed : ℝ) (h0 : 0 ≤ n0) (hv : 0 < speed) : Decay Real.exp n0 speed :=
  ⟨fun _ _ h => Real.exp_le_exp.mpr h, fun a => (Real.exp_pos a).le, h0, hv⟩

theorem env_real : Env Real.sqrt Real.exp Real.pi :=
  ⟨fun _ hs => Real.sqrt_pos.mpr hs, fun _ _ h => Real.sqrt_le_sqrt h, fun a => (Real.exp_pos a).le, Real.pi_pos⟩

theorem sqrtSpec_real : SqrtSpec Real.sqrt := fun s hs => ⟨Real.mul_self_sqrt hs, Real.sqrt_nonneg s⟩

theorem gaussianSample_real (sx sy x y : ℝ) (hx : 0 < sx) (hy : 0 < sy) :
    gaussianSample Real.exp Real.pi sx sy x y =
      (Real.exp (-(1 / (2 * sx ^ 2)) * x ^ 2) * Real.exp (-(1 / (2 * sy ^ 2)) * y ^ 2)) * (1 / (2 * Real.pi * sx * sy)) := by
  unfold gaussianSample normRadiusSqr
  rw [← Real.exp_add, lit2, lit05, mul_one_div]
  congr 2
  ring

/-- **the cross-section Gaussian is normalised** over ℝ² for all widths (proved from Mathlib's Gaussian integral) -/
theorem gaussian_cross_section_unit (sx sy : ℝ) (hx : 0 < sx) (hy : 0 < sy) :
    ∫ p : ℝ × ℝ, gaussianSample Real.exp Real.pi sx sy p.1 p.2 = 1 := by
  simp_rw [gaussianSample_real sx sy _ _ hx hy]
  rw [integral_mul_const, Cherab.Lemmas.gauss2d sx sy hx hy]
  have := Real.pi_pos
  field_simp

/-- **conservation across the beam**: with clamping off, the density integrated over the cross-section at any z of the
beam equals the line density there — for every divergence (σx(z), σy(z) > 0 is all that is used) -/
theorem cross_section_integral (sigma tanx tany length clampSqr : ℝ) (line : ℝ → Option ℝ) (z l : ℝ)
    (hsig : 0 < sigma) (hz : 0 ≤ z ∧ z ≤ length) (hl : line z = some l) :
    ∫ p : ℝ × ℝ, (beamDensity Real.sqrt Real.exp Real.pi sigma tanx tany length false clampSqr line p.1 p.2 z).getD 0 = l := by
  simp_rw [density_factorises Real.sqrt Real.exp Real.pi sigma tanx tany length false clampSqr line _ _ z hz (Or.inl rfl), hl]
  simp only [Option.map_some, Option.getD_some]
  rw [integral_const_mul, gaussian_cross_section_unit _ _ (sigmaZ_pos env_real hsig) (sigmaZ_pos env_real hsig), mul_one]

/-- flux through the cross-section at a sample point (partial in the same sense as `flux_at_nodes_partial`):
`v ∬ n dx dy = P/(E m e) · exp(−c_k/v)` -/
theorem cross_section_flux_at_nodes_partial (echarge amu energy power mass sigma tanx tany length clampSqr range : ℝ)
    (hr : 0 ≤ range) (hsig : 0 < sigma) (zs ss : List ℝ) (hzs : zs.Pairwise (· < ·))
    (hv : beamSpeed Real.sqrt echarge amu energy ≠ 0) :
    ∀ q ∈ zs.zip (cumtrapz (zs.zip ss)), 0 ≤ q.1 → q.1 ≤ length →
      (∫ p : ℝ × ℝ, (beamDensity Real.sqrt Real.exp Real.pi sigma tanx tany length false clampSqr
          (interpEval range (lineKnots Real.exp (sourceDensity Real.sqrt echarge amu energy power mass)
            (beamSpeed Real.sqrt echarge amu energy) zs ss)) p.1 p.2 q.1).getD 0) * beamSpeed Real.sqrt echarge amu energy
        = power / (energy * mass * echarge) * Real.exp (-q.2 / beamSpeed Real.sqrt echarge amu energy) := by
  intro q hq h0 hl
  rw [cross_section_integral sigma tanx tany length clampSqr _ q.1 _ hsig ⟨h0, hl⟩
    (flux_at_nodes_partial Real.exp _ _ range hr zs ss hzs q hq)]
  rw [← source_flux Real.sqrt echarge amu energy power mass hv]
  ring

/-- **no stopping: the flux through every cross-section is the particle rate, for any divergence** -/
theorem cross_section_flux_no_stopping (echarge amu energy power mass sigma tanx tany length clampSqr range : ℝ)
    (hsig : 0 < sigma) (zs ss : List ℝ) (hs : ∀ s ∈ ss, s = 0) (hv : beamSpeed Real.sqrt echarge amu energy ≠ 0)
    (z a : ℝ) (hz : 0 ≤ z ∧ z ≤ length)
    (ha : interpEval range (lineKnots Real.exp (sourceDensity Real.sqrt echarge amu energy power mass)
            (beamSpeed Real.sqrt echarge amu energy) zs ss) z = some a) :
    (∫ p : ℝ × ℝ, (beamDensity Real.sqrt Real.exp Real.pi sigma tanx tany length false clampSqr
        (interpEval range (lineKnots Real.exp (sourceDensity Real.sqrt echarge amu energy power mass)
          (beamSpeed Real.sqrt echarge amu energy) zs ss)) p.1 p.2 z).getD 0) * beamSpeed Real.sqrt echarge amu energy
      = power / (energy * mass * echarge) := by
  rw [cross_section_integral sigma tanx tany length clampSqr _ z a hsig hz ha,
    no_stopping_constant_flux Real.exp _ _ range Real.exp_zero zs ss hs z a ha]
  exact source_flux Real.sqrt echarge amu energy power mass hv

/-- the same for the whole pipeline on a fresh beam (clamping off): at every `linspace` sample point
`v ∬ Beam.density dx dy = P/(E m e) · exp(−c_k / v)` with `c_k` the cumulative trapezoid of the documented `S` -/
theorem full_cross_section_flux_partial (echarge amu energy power mass sigma tanx tany length clampSqr : ℝ)
    (dir : Vec ℝ) (n : Nat) (targets : List (List (Target ℝ))) (hn : 2 ≤ n) (hL : 0 < length) (hsig : 0 < sigma)
    (hv : beamSpeed Real.sqrt echarge amu energy ≠ 0) :
    ∀ q ∈ (nodes length n).zip (cumtrapz ((nodes length n).zip
        (targets.map (beamStopping Real.sqrt (evAmuFactor echarge amu)
          (beamVelocity Real.sqrt dir (beamSpeed Real.sqrt echarge amu energy)))))),
      (∫ p : ℝ × ℝ, (beamDensityFull Real.sqrt Real.exp Real.pi echarge amu energy power mass dir sigma tanx tany
          length n false clampSqr targets p.1 p.2 q.1).getD 0) * beamSpeed Real.sqrt echarge amu energy
        = power / (energy * mass * echarge) * Real.exp (-q.2 / beamSpeed Real.sqrt echarge amu energy) := by
  intro q hq
  have hz := nodes_in_range length n hn hL q.1 (List.of_mem_zip (a := q.1) (b := q.2) hq).1
  unfold beamDensityFull
  simp only [calcAttenuation_eq]
  exact cross_section_flux_at_nodes_partial echarge amu energy power mass sigma tanx tany length clampSqr 1e-9
    (by norm_num) hsig (nodes length n) _ (nodes_increasing length n hn hL) hv q hq hz.1 hz.2

/-- **conservation with an explicit error bound** (closes the gap of `flux_at_nodes_partial` for C² stopping profiles):
on the code's own sample grid `z_k = k h`, `h = L/(n−1)`, the interpolated line density at every sample point is
`n0 · exp(−c/v)` with `|c − ∫₀^{z_k} S| ≤ |z_k|³ ζ / (12 k²) = z_k h² ζ / 12`, `ζ` a bound of `|S''|`. -/
theorem flux_error_bound (exp : ℝ → ℝ) (n0 speed range length ζ : ℝ) (S : ℝ → ℝ) (n k : ℕ)
    (hr : 0 ≤ range) (hn : 2 ≤ n) (hL : 0 < length) (hk0 : 0 < k) (hk : k < n)
    (hf : ContDiffOn ℝ 2 S (Set.uIcc 0 (0 + k * (length / ((n - 1 : ℕ) : ℝ)))))
    (hb : ∀ x, |iteratedDerivWithin 2 S (Set.uIcc 0 (0 + k * (length / ((n - 1 : ℕ) : ℝ)))) x| ≤ ζ) :
    ∃ c, interpEval range (lineKnots exp n0 speed (nodes length n) ((nodes length n).map S))
          (k * (length / ((n - 1 : ℕ) : ℝ))) = some (n0 * exp (-c / speed)) ∧
      |c - ∫ x in (0 : ℝ)..(0 + k * (length / ((n - 1 : ℕ) : ℝ))), S x|
        ≤ |k * (length / ((n - 1 : ℕ) : ℝ))| ^ 3 * ζ / (12 * k ^ 2) := by
  set h := length / ((n - 1 : ℕ) : ℝ)
  obtain ⟨m, rfl⟩ : ∃ m, n = m + 1 := ⟨n - 1, by omega⟩
  have hz : nodes length (m + 1) = (List.range (m + 1)).map (fun i : ℕ => (0 : ℝ) + i * h) :=
    List.map_congr_left fun i _ => by rw [node_formula length (m + 1) i hn, zero_add]
  obtain ⟨c, hc, hbound⟩ := cumtrapz_error_bound S 0 h ζ m k hk0 (by omega) hf hb
  refine ⟨c, ?_, hbound⟩
  rw [← zero_add ((k : ℝ) * h)]
  refine flux_at_nodes_partial exp n0 speed range hr _ _ (nodes_increasing length (m + 1) hn hL)
    ((0 : ℝ) + k * h, c) ?_
  -- the `k`-th sample point with the `k`-th cumulative sum of `S` on the grid
  rw [← List.map_prod_left_eq_zip, hz, List.map_map]
  apply List.mem_of_getElem? (i := k)
  rw [List.getElem?_zip_eq_some, List.getElem?_map, List.getElem?_range hk]
  exact ⟨rfl, hc⟩

-- non-vacuity: constant stopping profile S ≡ 7 (ζ = 0: the rule is exact), 5 nodes on [0, 2], third node
example : ∃ c, interpEval 0 (lineKnots Real.exp 3 2 (nodes 2 5) ((nodes 2 5).map fun _ => (7 : ℝ))) ((2 : ℕ) * ((2 : ℝ) / ((5 - 1 : ℕ) : ℝ)))
      = some (3 * Real.exp (-c / 2)) ∧
    |c - ∫ x in (0 : ℝ)..(0 + (2 : ℕ) * ((2 : ℝ) / ((5 - 1 : ℕ) : ℝ))), (7 : ℝ)| ≤ |(2 : ℕ) * ((2 : ℝ) / ((5 - 1 : ℕ) : ℝ))| ^ 3 * 0 / (12 * (2 : ℕ) ^ 2) := by
  apply flux_error_bound Real.exp 3 2 0 2 0 (fun _ => (7 : ℝ)) 5 2 (le_refl _) (by norm_num) (by norm_num) (by norm_num) (by norm_num)
  · exact contDiffOn_const
  · intro x
    rw [iteratedDerivWithin_const]; simp

theorem sigmaZ_mul_self (sqrt : α → α) (hs : SqrtSpec sqrt) (sigma t z : α) (hsig : 0 < sigma) :
    sigmaZ sqrt sigma t z * sigmaZ sqrt sigma t z = sigma ^ 2 + (z * t) ^ 2 := by
  unfold sigmaZ
  rw [(hs _ (sigmaSqr_pos sigma t z hsig).le).1, sq, sq]

/-- the slope `x · z tan²α / σ(z)²` of the direction field is `x · σ'/σ` with `σ' = z tan²α / σ` (`sigmaZ_hasDerivAt`) -/
theorem slope_eq_sigmaZ (sqrt : α → α) (hs : SqrtSpec sqrt) (sigma t x z : α) (hsig : 0 < sigma) :
    x * (z * t ^ 2) / (sigma ^ 2 + (z * t) ^ 2)
      = x * (z * t ^ 2 / sigmaZ sqrt sigma t z) / sigmaZ sqrt sigma t z := by
  rw [← sigmaZ_mul_self sqrt hs sigma t z hsig, ← div_div, mul_div_assoc x (z * t ^ 2)]

/-- derivative of the envelope width: `σ'(z) = z tan²α / σ(z)` -/
theorem sigmaZ_hasDerivAt (sigma t z : ℝ) (hs : 0 < sigma) :
    HasDerivAt (fun z => sigmaZ Real.sqrt sigma t z) (z * t ^ 2 / sigmaZ Real.sqrt sigma t z) z := by
  unfold sigmaZ
  have h1 : HasDerivAt (fun z : ℝ => z * t) t z := hasDerivAt_mul_const t
  have h2 : HasDerivAt (fun z : ℝ => sigma * sigma + z * t * (z * t)) (t * (z * t) + z * t * t) z :=
    (h1.mul h1).const_add (sigma * sigma)
  refine (h2.sqrt (sigmaSqr_pos sigma t z hs).ne').congr_deriv ?_
  rw [show t * (z * t) + z * t * t = 2 * (z * t ^ 2) by ring, mul_div_mul_left _ _ two_ne_zero]

/-- a curve whose slope is `X σ'/σ` keeps `X/σ(z)` stationary -/
theorem ratio_sigmaZ_stationary {sigma t z : ℝ} {X : ℝ → ℝ} (hs : 0 < sigma)
    (hX : HasDerivAt X (X z * (z * t ^ 2) / (sigma ^ 2 + (z * t) ^ 2)) z) :
    HasDerivAt (fun z => X z / sigmaZ Real.sqrt sigma t z) 0 z := by
  have hσ := (sigmaZ_pos env_real hs (tandiv := t) (z := z)).ne'
  rw [slope_eq_sigmaZ Real.sqrt sqrtSpec_real sigma t (X z) z hs] at hX
  refine (hX.div (sigmaZ_hasDerivAt sigma t z hs) hσ).congr_deriv ?_
  rw [div_mul_cancel₀ _ hσ, sub_self, zero_div]

/-- **streamlines keep x/σx(z) constant**: along any curve `X(z)` whose slope is the x-slope `e_x/e_z` of the returned
direction field, the normalised coordinate `X(z)/σx(z)` has zero derivative (z > 0). -/
theorem streamline_invariant_x (sigma tanx tany y z : ℝ) (X : ℝ → ℝ) (hz : 0 < z) (hs : 0 < sigma)
    (hX : HasDerivAt X ((beamDirection Real.sqrt sigma tanx tany (X z) y z).1 /
        (beamDirection Real.sqrt sigma tanx tany (X z) y z).2.2) z) :
    HasDerivAt (fun z => X z / sigmaZ Real.sqrt sigma tanx z) 0 z := by
  rw [(direction_streamline Real.sqrt sqrtSpec_real sigma tanx tany (X z) y z hz hs).1] at hX
  exact ratio_sigmaZ_stationary hs hX

theorem streamline_invariant_y (sigma tanx tany x z : ℝ) (Y : ℝ → ℝ) (hz : 0 < z) (hs : 0 < sigma)
    (hY : HasDerivAt Y ((beamDirection Real.sqrt sigma tanx tany x (Y z) z).2.1 /
        (beamDirection Real.sqrt sigma tanx tany x (Y z) z).2.2) z) :
    HasDerivAt (fun z => Y z / sigmaZ Real.sqrt sigma tany z) 0 z := by
  rw [(direction_streamline Real.sqrt sqrtSpec_real sigma tanx tany x (Y z) z hz hs).2.1] at hY
  exact ratio_sigmaZ_stationary hs hY

/-- conversely the envelope curves `x = c σx(z)` are tangent to the direction field -/
theorem envelope_is_streamline (sigma tanx tany c y z : ℝ) (hz : 0 < z) (hs : 0 < sigma) :
    HasDerivAt (fun z => c * sigmaZ Real.sqrt sigma tanx z)
      ((beamDirection Real.sqrt sigma tanx tany (c * sigmaZ Real.sqrt sigma tanx z) y z).1 /
        (beamDirection Real.sqrt sigma tanx tany (c * sigmaZ Real.sqrt sigma tanx z) y z).2.2) z := by
  have hσ := (sigmaZ_pos env_real hs (tandiv := tanx) (z := z)).ne'
  rw [(direction_streamline Real.sqrt sqrtSpec_real sigma tanx tany _ y z hz hs).1,
    slope_eq_sigmaZ Real.sqrt sqrtSpec_real sigma tanx _ z hs, mul_right_comm, mul_div_cancel_right₀ _ hσ]
  exact (sigmaZ_hasDerivAt sigma tanx z hs).const_mul c

end RealInst

/-! ## non-vacuity: the hypotheses are satisfiable and the objects non-trivial -/

section Examples

example : Decay Real.exp 3 2 := decay_real 3 2 (by norm_num) (by norm_num)
example : Env Real.sqrt Real.exp Real.pi := env_real
example : SqrtSpec Real.sqrt := sqrtSpec_real

-- cumulative trapezoid of a non-negative integrand on an uneven grid
example : cumtrapz [((0 : ℚ), (2 : ℚ)), (1, 4), (3, 0)] = [0, 3, 7] := by decide +kernel

-- sample count: L/step integer, L < step, generic
example : sampleCount (fun x : ℚ => ⌈x⌉₊) 2 (1 / 4) = 9 := by decide +kernel
example : sampleCount (fun x : ℚ => ⌈x⌉₊) 1 3 = 4 := by decide +kernel
example : nodes (2 : ℚ) 5 = [0, 1 / 2, 1, 3 / 2, 2] := by decide +kernel

-- two species, distinct charges: S = Σ Z n S_i(…, Σ Z² n / Z_i, …) with S_i returning its density argument
example : beamStopping (fun x : ℚ => x) 1 (0, 0, 0)
    [⟨1, 2, 0, (0, 0, 0), fun _ n _ => n⟩, ⟨2, 3, 0, (0, 0, 0), fun _ n _ => n⟩] = 70 := by decide +kernel

-- interpolator: inside a bin, on the last knot, in the extrapolation margin, outside
example : interpEval (1 / 10 : ℚ) [(0, 4), (1, 2), (2, 1)] (3 / 2) = some (3 / 2) := by decide +kernel
example : interpEval (1 / 10 : ℚ) [(0, 4), (1, 2), (2, 1)] 2 = some 1 := by decide +kernel
example : interpEval (1 / 10 : ℚ) [(0, 4), (1, 2), (2, 1)] (41 / 20) = some 1 := by decide +kernel
example : interpEval (1 / 10 : ℚ) [(0, 4), (1, 2), (2, 1)] 3 = none := by decide +kernel

-- un-normalised direction off axis: slope x z tan² / (σ² + z² tan²)
example : directionRaw (1 : ℚ) 1 0 2 3 1 = (1, 0, 1) := by decide +kernel

-- sheet beam: no x-component off axis although the y divergence is non-zero
example : (beamDirection (fun x : ℚ => x) 1 0 1 5 7 2).1 = 0 := direction_sheet_x _ _ _ _ _ _

-- a line density read between two knots, bounded by the source value 3
example : ∃ a : ℚ, interpEval (0 : ℚ) (lineKnots (fun _ => (1 : ℚ)) 3 2 [0, 1, 2] [1, 5, 0]) (1 / 2) = some a ∧ a ≤ 3 :=
  ⟨3, by decide +kernel, le_refl _⟩

-- clamp on: outside the radius the density is zero although the line density is 5
example : beamDensity (fun x : ℚ => x) (fun _ => 1) 3 1 0 0 10 true 4 (fun _ => some 5) 3 0 1 = some 0 := by
  decide +kernel
-- … and inside it is line density × Gaussian sample
example : beamDensity (fun x : ℚ => x) (fun _ => 1) 3 1 0 0 10 true 4 (fun _ => some 5) 1 0 1 = some (5 / 6) := by
  decide +kernel

end Examples

end Cherab.Props.C04
