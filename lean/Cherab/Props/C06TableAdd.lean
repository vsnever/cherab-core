import Cherab.Gen.RepoPaths

namespace Cherab.Props.C06Table
open Cherab.Gen.RepoPaths

/-- **`add_matches_update`**: every `add_y` runs the code of, and writes with the path template of, the `update_*`
family it is named after, wrapping its data in the class it is named after -/
theorem add_matches_update : tables.addMatches = true := by decide +kernel

end Cherab.Props.C06Table
