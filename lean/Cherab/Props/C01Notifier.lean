import Cherab.Model.Notifier

/-!
# C01 — the lazy-purge `Notifier` (cherab/core/utility/notify.py) refines an eager specification

`absN` maps the reference list with its not yet purged dead entries to the list of live callbacks; `specStep2` is the
specification on (live callbacks, collected objects); `notifier_exact` is the refinement over every history.
-/
namespace Cherab.Props.C01
open Cherab.Notifier

/-- `alive` as a function of the dead set alone: an update of `refs` visibly leaves it unchanged -/
def aliveD (d : List Nat) (e : Entry) : Bool := !d.contains e.1

theorem alive_eq (s : St) : alive s = aliveD s.dead := rfl

def absN (s : St) : List Entry := s.refs.filter (aliveD s.dead)

def specStep2 (x : List Entry × List Nat) : Op → List Entry × List Nat
  | .add e => if x.1.contains e || x.2.contains e.1 then x else (x.1 ++ [e], x.2)
  | .remove e => (x.1.erase e, x.2)
  | .kill o => (x.1.filter (fun r => r.1 != o), o :: x.2)
  | .notify => x

def specRun (ops : List Op) : List Entry × List Nat := ops.foldl specStep2 ([], [])

theorem isPresent_eq (s : St) (e : Entry) : isPresent s e = (absN s).contains e := by
  rw [isPresent, absN, List.contains_eq_any_beq, List.any_filter]
  simp only [alive_eq, BEq.comm (a := e)]

/-- `_remove_method` on the live list; `erase` passes through the filter because all copies of an entry are alive or dead
together -/
theorem absN_removeFirst (s : St) (e : Entry) : absN { s with refs := removeFirst s e } = (absN s).erase e := by
  show (removeFirst s e).filter (aliveD s.dead) = (s.refs.filter (aliveD s.dead)).erase e
  unfold removeFirst
  cases hf : s.refs.find? (fun r => alive s r && r == e) with
  | none =>
    rw [List.find?_eq_none] at hf
    refine (List.erase_of_not_mem fun hm => ?_).symm
    rw [List.mem_filter] at hm
    exact hf e hm.1 (by rw [alive_eq, hm.2, beq_self_eq_true]; rfl)
  | some r =>
    have hr := List.find?_some hf
    rw [Bool.and_eq_true, beq_iff_eq] at hr
    rw [← hr.2, List.erase_filter]

theorem abs_step (s : St) (op : Op) :
    (absN (step s op).1, (step s op).1.dead) = specStep2 (absN s, s.dead) op := by
  cases op with
  | add e =>
    simp only [step, specStep2, isPresent_eq]
    split
    · rfl
    · rename_i hc
      rw [Bool.or_eq_true, not_or, Bool.not_eq_true, Bool.not_eq_true] at hc
      have hal : aliveD s.dead e = true := by rw [aliveD, hc.2]; rfl
      show ((s.refs ++ [e]).filter (aliveD s.dead), s.dead) = _
      rw [List.filter_append, List.filter_cons_of_pos hal, List.filter_nil]; rfl
  | remove e => exact congrArg (·, s.dead) (absN_removeFirst s e)
  | kill o =>
    show (s.refs.filter (aliveD (o :: s.dead)), o :: s.dead)
      = ((s.refs.filter (aliveD s.dead)).filter (fun r => r.1 != o), o :: s.dead)
    rw [List.filter_filter]
    congr 2; funext r
    simp only [aliveD, List.contains_cons, Bool.not_or, bne]
  | notify =>
    show ((s.refs.filter (aliveD s.dead)).filter (aliveD s.dead), s.dead) = (s.refs.filter (aliveD s.dead), s.dead)
    rw [List.filter_filter]; simp only [Bool.and_self]

theorem abs_run (ops : List Op) (s : St) :
    (absN (run s ops), (run s ops).dead) = ops.foldl specStep2 (absN s, s.dead) := by
  induction ops generalizing s with
  | nil => rfl
  | cons o os ih => rw [List.foldl_cons, ← abs_step]; exact ih _

theorem specStep2_nodup (x : List Entry × List Nat) (op : Op) (h : x.1.Nodup) : (specStep2 x op).1.Nodup := by
  cases op with
  | add e =>
    simp only [specStep2]
    split
    · exact h
    · rename_i hc
      rw [Bool.or_eq_true, not_or, List.contains_iff_mem] at hc
      exact List.nodup_append.mpr ⟨h, List.pairwise_singleton _ e, fun a ha b hb => by
        rw [List.mem_singleton] at hb; subst hb; exact fun hab => hc.1 (hab ▸ ha)⟩
  | remove e => exact h.erase e
  | kill o => exact h.sublist List.filter_sublist
  | notify => exact h

theorem specRun_nodup (ops : List Op) : (specRun ops).1.Nodup := by
  suffices ∀ x : List Entry × List Nat, x.1.Nodup → (ops.foldl specStep2 x).1.Nodup from this _ List.nodup_nil
  induction ops with
  | nil => exact fun _ h => h
  | cons o os ih => exact fun x h => ih _ (specStep2_nodup x o h)

/-- After any sequence of add / remove / object deaths / notifications, `notify` invokes
exactly the callbacks that are registered and alive according to the eager specification, each once, in
registration order. -/
theorem notifier_exact (ops : List Op) :
    (step (run init ops) .notify).2 = (specRun ops).1 ∧ ((step (run init ops) .notify).2).Nodup := by
  have h : (step (run init ops) .notify).2 = (specRun ops).1 := congrArg Prod.fst (abs_run ops init)
  exact ⟨h, h ▸ specRun_nodup ops⟩

example : (step (run init [.add (1,1), .add (2,1), .add (1,1), .kill 1]) .notify).2 = [(2,1)] := by decide

end Cherab.Props.C01
