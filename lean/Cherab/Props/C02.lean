import Cherab.Lemmas.LineShape
import Mathlib.Data.Rat.Floor
import Mathlib.Algebra.Order.Ring.Rat
import Mathlib.Analysis.SpecialFunctions.Sqrt

/-!
# C02 — line shapes are normalised: the spectral integral equals the supplied radiance

Property theorems (and, at the end, instances over ℚ and ℝ showing their hypotheses satisfiable), about the model
`Cherab/Model/LineShape.lean` (transcribed from gaussian.pyx, multiplet.pyx, zeeman.pyx, stark.pyx, doppler.pyx,
beam/mse.pyx, atomic/zeeman.pyx, integrators1d.pyx), over an arbitrary ordered field.  The work is done in
`Cherab/Lemmas/LineShape.lean`; a theorem here is a lemma of that file under its property name, an instance of one of its
general statements, or a few lines on top of them.

External mathematics is a parameter with named hypotheses: `FloorSpec`/`CeilSpec` (C `floor`/`ceil` + `<int>` cast
inside the `int` range), `ErfSpec` (`erf` monotone, odd, ≤ 1), `SqrtSpec`, `ConstsPos`, `0 < M_SQRT2`, `pow 0 n = 0`.

Clauses of the property sentence → theorems
* bin average of the profile, bin by bin ............ `gauss_bin_value`, `model_bins`, `lorentz_bin_value`
* Σ samples·Δ = R × fraction in the window .......... `gauss_bins_telescope`, `gauss_window_covers`,
  `gauss_integral_bounds`, `gauss_cutoff_loss`, `gauss_integral_fraction`, `gauss_skipped_fraction`,
  `gauss_whole_radiance`, `model_integral_bounds`, `model_whole_radiance`, `thermal_pos`, and per model
  `…_normalised` (five here; `paramZeeman_normalised` is in `Props/C02Param.lean`)
* linear / additive in R ............................ `add_line_additive`, `add_line_linear`
* π + σ = unpolarised, bin by bin ................... `…_pi_plus_sigma` (4 models), `…_pol_shares`
* components share the radiance in stated ratios .... `…_weights_sum`, `multiplet_ratios`, `zeemanNormalise_sum`,
  `zeemanNormalise_wavelengths`, `mse_sigma_pi_split`, `triplet_weights`, `cosSqr_range`, `zeeman_weights_nonneg`
* no width ⇒ nothing added .......................... `zero_width_adds_nothing`, `lorentz_zero_width`,
  `models_zero_width`, `stark_zero_width`, `stark_lorentz_only`, `stark_gauss_only`, `addComps_zero_width`,
  `every_model_zero_width`, `mse_no_emission`, `mse_zero_beam_temperature`
Not clauses of the sentence: the Lorentzian adder after notes/fixes/C02-1.diff (`lorentz_cdf_…`) and
`GaussianQuadrature` as an object with setters (`gq…`, `gaussQuad_exact`).

Partial (named so): `lorentz_bins_telescope_partial` — the Lorentzian telescopes *if the bin integrator is additive
over adjacent bins*; that the integrator approximates `∫ StarkFunction` and that `StarkFunction` integrates to 1
over ±50 FWHM (₂F₁ closed form) is not proved (Mathlib has no ₂F₁) and `GaussianQuadrature` is **not** additive —
this part of the property is checked on the implementation only (S), where it fails for under-resolved lines.
-/
namespace Cherab.Props.C02
set_option linter.unusedSectionVars false
set_option linter.unusedVariables false
open Cherab.LineShape Cherab.Lemmas.LineShape

variable {α : Type} [Field α] [LinearOrder α] [IsStrictOrderedRing α]

/-- **the bins `[start, end)` cover `[min,max] ∩ [λ − cut·w, λ + cut·w]` and lie inside `[min,max]`** -/
theorem gauss_window_covers (F : Fns α) (hf : FloorSpec F.floorI) (hc : CeilSpec F.ceilI) (cut wl w : α)
    (hcw : 0 ≤ cut * w) (s : Spec α) (hs : WF s) (st en : Int) (h : lineRange F cut wl w s = some (st, en)) :
    0 ≤ st ∧ st ≤ en ∧ en ≤ (s.bins : Int) ∧
      s.mn ≤ edge s st ∧ edge s st ≤ max s.mn (wl - cut * w) ∧
      min s.mx (wl + cut * w) ≤ edge s en ∧ edge s en ≤ s.mx :=
  lineRange_some hf hc hcw hs h

/-- **bin by bin: bin `i` receives `R·(Φ(edge i+1) − Φ(edge i))/Δ`** inside `[start, end)`, nothing outside -/
theorem gauss_bin_value (F : Fns α) (hf : FloorSpec F.floorI) (hc : CeilSpec F.ceilI) (cut R wl sigma : α)
    (hcut : 0 ≤ cut) (s : Spec α) (hs : WF s) (i : Nat) :
    (addGaussianLine F cut R wl sigma s).samples.getD i 0 = s.samples.getD i 0 + gaussBin F cut R wl sigma s i :=
  Cherab.Lemmas.LineShape.gauss_bin_value F hf hc cut R wl sigma hcut s hs i

/-- **telescoping: `Σ_bins added·Δ = R·½(erf t(end) − erf t(start))`** -/
theorem gauss_bins_telescope (F : Fns α) (hf : FloorSpec F.floorI) (hc : CeilSpec F.ceilI) (cut R wl sigma : α)
    (hcut : 0 ≤ cut) (s : Spec α) (hs : WF s) (st en : Int) (h : gaussActive F cut wl sigma s = some (st, en)) :
    integral (addGaussianLine F cut R wl sigma s) =
      integral s + R * 0.5 * (F.erf (tE F wl sigma s en) - F.erf (tE F wl sigma s st)) :=
  Cherab.Lemmas.LineShape.gauss_bins_telescope F hf hc cut R wl sigma hcut s hs st en h

/-- **the spectral integral added by one Gaussian call lies between `R × fraction of the profile in
`[min,max] ∩ cut-off interval`** and **`R × fraction in [min,max]`** -/
theorem gauss_integral_bounds (F : Fns α) (hf : FloorSpec F.floorI) (hc : CeilSpec F.ceilI) (he : ErfSpec F.erf)
    (h2 : 0 < F.sqrt2) (cut R wl sigma : α) (hcut : 0 ≤ cut) (hR : 0 ≤ R) (s : Spec α) (hs : WF s) (st en : Int)
    (h : gaussActive F cut wl sigma s = some (st, en)) :
    integral s + R * frac F wl sigma (max s.mn (wl - cut * sigma)) (min s.mx (wl + cut * sigma))
        ≤ integral (addGaussianLine F cut R wl sigma s) ∧
      integral (addGaussianLine F cut R wl sigma s) ≤ integral s + R * frac F wl sigma s.mn s.mx :=
  Cherab.Lemmas.LineShape.gauss_integral_bounds F hf hc he h2 cut R wl sigma hcut hR s hs st en h

/-- the cut-off at `cut·σ` loses at most `1 − erf(cut/√2)` of the profile -/
theorem gauss_cutoff_loss (F : Fns α) (he : ErfSpec F.erf) (h2 : 0 < F.sqrt2) (cut wl sigma a b : α)
    (hsig : 0 < sigma) :
    frac F wl sigma a b - (1 - F.erf (cut / F.sqrt2))
      ≤ frac F wl sigma (max a (wl - cut * sigma)) (min b (wl + cut * sigma)) :=
  Cherab.Lemmas.LineShape.gauss_cutoff_loss F he h2 cut wl sigma a b hsig

/-- **`Σ samples·Δ` grows by `R × (fraction of the normalised profile inside the window)`, up to the cut-off loss** -/
theorem gauss_integral_fraction (F : Fns α) (hf : FloorSpec F.floorI) (hc : CeilSpec F.ceilI) (he : ErfSpec F.erf)
    (h2 : 0 < F.sqrt2) (cut R wl sigma : α) (hcut : 0 ≤ cut) (hR : 0 ≤ R) (s : Spec α) (hs : WF s) (st en : Int)
    (h : gaussActive F cut wl sigma s = some (st, en)) :
    integral s + R * (frac F wl sigma s.mn s.mx - (1 - F.erf (cut / F.sqrt2)))
        ≤ integral (addGaussianLine F cut R wl sigma s) ∧
      integral (addGaussianLine F cut R wl sigma s) ≤ integral s + R * frac F wl sigma s.mn s.mx :=
  have b := Cherab.Lemmas.LineShape.gauss_integral_bounds F hf hc he h2 cut R wl sigma hcut hR s hs st en h
  have hsig := (gaussActive_some hf hc hcut hs h).1
  ⟨le_trans (add_le_add_right (mul_le_mul_of_nonneg_left
    (Cherab.Lemmas.LineShape.gauss_cutoff_loss F he h2 cut wl sigma s.mn s.mx hsig) hR) _) b.1, b.2⟩

/-- when the call returns early although `σ > 0`, at most half the cut-off loss lay inside the window -/
theorem gauss_skipped_fraction (F : Fns α) (he : ErfSpec F.erf) (h2 : 0 < F.sqrt2) (cut wl sigma : α)
    (hsig : 0 < sigma) (s : Spec α) (h : gaussActive F cut wl sigma s = none) :
    frac F wl sigma s.mn s.mx ≤ 0.5 * (1 - F.erf (cut / F.sqrt2)) :=
  Cherab.Lemmas.LineShape.gauss_skipped_fraction F he h2 cut wl sigma hsig s h

/-- a window that contains the whole cut-off interval receives the whole radiance (up to the loss) -/
theorem gauss_whole_radiance (F : Fns α) (hf : FloorSpec F.floorI) (hc : CeilSpec F.ceilI) (he : ErfSpec F.erf)
    (h2 : 0 < F.sqrt2) (cut R wl sigma : α) (hcut : 0 ≤ cut) (hR : 0 ≤ R) (hsig : 0 < sigma) (s : Spec α) (hs : WF s)
    (hlo : s.mn ≤ wl - cut * sigma) (hhi : wl + cut * sigma ≤ s.mx) :
    integral s + R * F.erf (cut / F.sqrt2) ≤ integral (addGaussianLine F cut R wl sigma s) ∧
      integral (addGaussianLine F cut R wl sigma s) ≤ integral s + R :=
  Cherab.Lemmas.LineShape.gauss_whole_radiance F hf hc he h2 cut R wl sigma hcut hR hsig s hs hlo hhi

theorem add_line_linear (F : Fns α) (cut c R wl sigma : α) (s : Spec α) (i : Nat) :
    gaussBin F cut (c * R) wl sigma s i = c * gaussBin F cut R wl sigma s i := by
  unfold gaussBin
  cases gaussActive F cut wl sigma s with
  | none => simp
  | some r => obtain ⟨st, en⟩ := r; simp only; split_ifs <;> ring

/-- **adding `R₁` then `R₂` at the same (λ, σ) equals adding `R₁ + R₂`, bin by bin** -/
theorem add_line_additive (F : Fns α) (hf : FloorSpec F.floorI) (hc : CeilSpec F.ceilI) (cut R1 R2 wl sigma : α)
    (hcut : 0 ≤ cut) (s : Spec α) (hs : WF s) (i : Nat) :
    (addGaussianLine F cut R2 wl sigma (addGaussianLine F cut R1 wl sigma s)).samples.getD i 0 =
      (addGaussianLine F cut (R1 + R2) wl sigma s).samples.getD i 0 :=
  Cherab.Lemmas.LineShape.add_line_additive F hf hc cut R1 R2 wl sigma hcut s hs i

/-- a line of no width adds nothing -/
theorem zero_width_adds_nothing (F : Fns α) (cut R wl sigma : α) (s : Spec α) (h : sigma ≤ 0) :
    addGaussianLine F cut R wl sigma s = s :=
  Cherab.Lemmas.LineShape.zero_width_adds_nothing F cut R wl sigma s h

theorem lorentz_bin_value (F : Fns α) (hf : FloorSpec F.floorI) (hc : CeilSpec F.ceilI) (I : α → α → α → α → α)
    (cut R wl fwhm : α) (hcut : 0 ≤ cut) (s : Spec α) (hs : WF s) (i : Nat) :
    (addLorentzianLine F I cut R wl fwhm s).samples.getD i 0 = s.samples.getD i 0 + lorBin F I cut R wl fwhm s i :=
  Cherab.Lemmas.LineShape.lorentz_bin_value F hf hc I cut R wl fwhm hcut s hs i

/-- **Lorentzian: `Σ_bins added·Δ = R · I(edge start, edge end)`** when the bin integrator is additive -/
theorem lorentz_bins_telescope_partial (F : Fns α) (hf : FloorSpec F.floorI) (hc : CeilSpec F.ceilI) (I : α → α → α → α → α)
    (cut R wl fwhm : α) (hadd : ∀ a b c, I wl fwhm a b + I wl fwhm b c = I wl fwhm a c)
    (hcut : 0 ≤ cut) (s : Spec α) (hs : WF s) (st en : Int) (h : lorActive F cut wl fwhm s = some (st, en)) :
    integral (addLorentzianLine F I cut R wl fwhm s) = integral s + R * I wl fwhm (edge s st) (edge s en) := by
  obtain ⟨-, h0, hle, hen, -⟩ := gaussActive_some hf hc hcut hs h
  rw [addLorentzianLine_eq, h]
  exact addAt_runBins_sum _ (fun a b c => by rw [← mul_add, hadd]) hs.dl_pos.ne' _ _ _ h0 hle hen

theorem lorentz_zero_width (F : Fns α) (I : α → α → α → α → α) (cut R wl fwhm : α) (s : Spec α) (h : fwhm ≤ 0) :
    addLorentzianLine F I cut R wl fwhm s = s :=
  Cherab.Lemmas.LineShape.lorentz_zero_width F I cut R wl fwhm s h

/-- **every model: each bin of the result = the bin before + Σ over the components of their bin averages** -/
theorem model_bins (F : Fns α) (hf : FloorSpec F.floorI) (hc : CeilSpec F.ceilI) (I : α → α → α → α → α)
    (cutG cutL : α) (hG : 0 ≤ cutG) (hL : 0 ≤ cutL) (cs : List (Comp α)) (s : Spec α) (hs : WF s) (i : Nat) :
    (addComps F I cutG cutL cs s).samples.getD i 0 = s.samples.getD i 0 + compsBin F I cutG cutL cs s i :=
  addComps_bin hf hc hG hL hs cs i

/-- **any Gaussian model: `Σ samples·Δ` grows by `Σ_c R_c × (fraction of component c inside the window)`**,
i.e. the supplied radiance times the fraction of the (weighted) normalised profile inside the window, up to
the cut-off loss `1 − erf(cut/√2)` per unit radiance -/
theorem model_integral_bounds (F : Fns α) (hf : FloorSpec F.floorI) (hc : CeilSpec F.ceilI) (he : ErfSpec F.erf)
    (h2 : 0 < F.sqrt2) (I : α → α → α → α → α) (cutG cutL : α) (hG : 0 ≤ cutG) (cs : List (Comp α))
    (hall : ∀ c ∈ cs, c.lor = false ∧ 0 ≤ c.rad ∧ 0 < c.width) (s : Spec α) (hs : WF s) :
    integral s + (cs.map fun c => c.rad * (frac F c.wl c.width s.mn s.mx - (1 - F.erf (cutG / F.sqrt2)))).sum
        ≤ integral (addComps F I cutG cutL cs s) ∧
      integral (addComps F I cutG cutL cs s)
        ≤ integral s + (cs.map fun c => c.rad * frac F c.wl c.width s.mn s.mx).sum :=
  Cherab.Lemmas.LineShape.model_integral_bounds F hf hc he h2 I cutG cutL hG cs hall s hs

theorem zeemanTriplet_pi_plus_sigma (F : Fns α) (hf : FloorSpec F.floorI) (hc : CeilSpec F.ceilI)
    (I : α → α → α → α → α) (cutG cutL : α) (hG : 0 ≤ cutG) (hL : 0 ≤ cutL) (K : Consts α) (R : α) (e : Env α) :
    PiPlusSigma F I cutG cutL (zeemanTripletComps F K Pol.no R e) (zeemanTripletComps F K Pol.pi R e)
      (zeemanTripletComps F K Pol.sigma R e) :=
  zeemanShape_piPlusSigma hf hc hG hL

theorem paramZeeman_pi_plus_sigma (F : Fns α) (hf : FloorSpec F.floorI) (hc : CeilSpec F.ceilI)
    (I : α → α → α → α → α) (cutG cutL : α) (hG : 0 ≤ cutG) (hL : 0 ≤ cutL) (K : Consts α) (al be ga R : α) (e : Env α) :
    PiPlusSigma F I cutG cutL (paramZeemanComps F K al be ga Pol.no R e) (paramZeemanComps F K al be ga Pol.pi R e)
      (paramZeemanComps F K al be ga Pol.sigma R e) :=
  zeemanShape_piPlusSigma hf hc hG hL

theorem zeemanMultiplet_pi_plus_sigma (F : Fns α) (hf : FloorSpec F.floorI) (hc : CeilSpec F.ceilI)
    (I : α → α → α → α → α) (cutG cutL : α) (hG : 0 ≤ cutG) (hL : 0 ≤ cutL) (K : Consts α)
    (rawPi rawSp rawSm : List (α × α)) (R : α) (e : Env α) :
    PiPlusSigma F I cutG cutL (zeemanMultipletComps F K rawPi rawSp rawSm Pol.no R e)
      (zeemanMultipletComps F K rawPi rawSp rawSm Pol.pi R e)
      (zeemanMultipletComps F K rawPi rawSp rawSm Pol.sigma R e) :=
  zeemanShape_piPlusSigma hf hc hG hL

theorem stark_pi_plus_sigma (F : Fns α) (hf : FloorSpec F.floorI) (hc : CeilSpec F.ceilI)
    (I : α → α → α → α → α) (cutG cutL : α) (hG : 0 ≤ cutG) (hL : 0 ≤ cutL) (K : Consts α) (cij aij bij R : α)
    (e : Env α) :
    PiPlusSigma F I cutG cutL (starkComps F K cij aij bij Pol.no R e) (starkComps F K cij aij bij Pol.pi R e)
      (starkComps F K cij aij bij Pol.sigma R e) :=
  Cherab.Lemmas.LineShape.stark_pi_plus_sigma F hf hc I cutG cutL hG hL K cij aij bij R e

theorem gaussianLine_weights_sum (F : Fns α) (K : Consts α) (R : α) (e : Env α) (hts : 0 < e.ts) :
    radSum (gaussianLineComps F K R e) = R := by
  rw [gaussianLineComps, if_neg (ts_pos_not e hts), radSum_cons]
  exact add_zero R

/-- the multiplet components carry `R × ratio` each … -/
theorem multiplet_ratios (F : Fns α) (K : Consts α) (mult : List (α × α)) (R : α) (e : Env α) (hts : 0 < e.ts) :
    (multipletComps F K mult R e).map (fun c => c.rad) = mult.map (fun m => R * m.2) :=
  Cherab.Lemmas.LineShape.multiplet_ratios F K mult R e hts

/-- … which add up to `R` when the ratios sum to one (enforced by the constructor) -/
theorem multiplet_weights_sum (F : Fns α) (K : Consts α) (mult : List (α × α)) (R : α) (e : Env α) (hts : 0 < e.ts)
    (hsum : (mult.map Prod.snd).sum = 1) : radSum (multipletComps F K mult R e) = R := by
  rw [radSum, Cherab.Lemmas.LineShape.multiplet_ratios F K mult R e hts, List.sum_map_mul_left, hsum, mul_one]

/-- `0.5 sin² + 2 (0.25 sin² + 0.5 cos²) = 1` with `sin² = 1 − cos²` — for *any* value of `cos²` -/
theorem triplet_weights (c R : α) : 0.5 * (1.0 - c) * R + ((0.25 * (1.0 - c) + 0.5 * c) * R + (0.25 * (1.0 - c) + 0.5 * c) * R) = R :=
  Cherab.Lemmas.LineShape.triplet_weights c R

theorem zeemanTriplet_weights_sum (F : Fns α) (K : Consts α) (R : α) (e : Env α) (hts : 0 < e.ts) :
    radSum (zeemanTripletComps F K Pol.no R e) = R :=
  (zeemanShape_radSum hts triplet_radSum).1

/-- π share + σ share = the whole radiance (both for `|B| = 0`: ½ + ½, and `|B| ≠ 0`) -/
theorem zeemanTriplet_pol_shares (F : Fns α) (K : Consts α) (R : α) (e : Env α) (hts : 0 < e.ts) :
    radSum (zeemanTripletComps F K Pol.pi R e) + radSum (zeemanTripletComps F K Pol.sigma R e) = R :=
  (zeemanShape_radSum hts triplet_radSum).2

theorem paramZeeman_weights_sum (F : Fns α) (K : Consts α) (al be ga R : α) (e : Env α) (hts : 0 < e.ts) :
    radSum (paramZeemanComps F K al be ga Pol.no R e) = R :=
  (zeemanShape_radSum hts triplet_radSum).1

theorem paramZeeman_pol_shares (F : Fns α) (K : Consts α) (al be ga R : α) (e : Env α) (hts : 0 < e.ts) :
    radSum (paramZeemanComps F K al be ga Pol.pi R e) + radSum (paramZeemanComps F K al be ga Pol.sigma R e) = R :=
  (zeemanShape_radSum hts triplet_radSum).2

/-- **`ZeemanStructure.evaluate` renormalises: the ratios it returns add to 1 whenever their raw sum is positive** -/
theorem zeemanNormalise_sum (raw : List (α × α)) (h : 0 < (raw.map Prod.snd).sum) :
    ((zeemanNormalise raw).map Prod.snd).sum = 1 :=
  Cherab.Lemmas.LineShape.zeemanNormalise_sum raw h

/-- wavelengths are left alone by the renormalisation -/
theorem zeemanNormalise_wavelengths (raw : List (α × α)) : (zeemanNormalise raw).map Prod.fst = raw.map Prod.fst :=
  Cherab.Lemmas.LineShape.zeemanNormalise_wavelengths raw

theorem zeemanMultiplet_weights_sum (F : Fns α) (K : Consts α) (rawPi rawSp rawSm : List (α × α)) (R : α) (e : Env α)
    (hts : 0 < e.ts) (hpi : 0 < (rawPi.map Prod.snd).sum) (hsp : 0 < (rawSp.map Prod.snd).sum)
    (hsm : 0 < (rawSm.map Prod.snd).sum) :
    radSum (zeemanMultipletComps F K rawPi rawSp rawSm Pol.no R e) = R :=
  (zeemanShape_radSum hts (multiplet_radSum (fun x => dopplerShift F K x e.dir e.vel) hpi hsp hsm)).1

theorem zeemanMultiplet_pol_shares (F : Fns α) (K : Consts α) (rawPi rawSp rawSm : List (α × α)) (R : α) (e : Env α)
    (hts : 0 < e.ts) (hpi : 0 < (rawPi.map Prod.snd).sum) (hsp : 0 < (rawSp.map Prod.snd).sum)
    (hsm : 0 < (rawSm.map Prod.snd).sum) :
    radSum (zeemanMultipletComps F K rawPi rawSp rawSm Pol.pi R e) +
      radSum (zeemanMultipletComps F K rawPi rawSp rawSm Pol.sigma R e) = R :=
  (zeemanShape_radSum hts (multiplet_radSum (fun x => dopplerShift F K x e.dir e.vel) hpi hsp hsm)).2

/-- Lorentzian and Gaussian weights of the pseudo-Voigt share the radiance, and with the Zeeman weights the
whole radiance is handed out in mode "no" -/
theorem stark_weights_sum (F : Fns α) (K : Consts α) (lw ff sigma R : α) (e : Env α) :
    radSum (starkTail F K (some (lw, ff, sigma)) Pol.no R e) = R :=
  (starkTail_radSum F K lw ff sigma R e).1

theorem stark_pol_shares (F : Fns α) (K : Consts α) (lw ff sigma R : α) (e : Env α) :
    radSum (starkTail F K (some (lw, ff, sigma)) Pol.pi R e) +
      radSum (starkTail F K (some (lw, ff, sigma)) Pol.sigma R e) = R :=
  (starkTail_radSum F K lw ff sigma R e).2

/-- no Doppler width (`T_s ≤ 0`) and no electron broadening (`n_e ≤ 0` or `T_e ≤ 0`): nothing is added -/
theorem stark_zero_width (F : Fns α) (K : Consts α) (cij aij bij : α) (pol : Pol) (R : α) (e : Env α)
    (hts : e.ts ≤ 0) (hel : e.ne ≤ 0 ∨ e.te ≤ 0) : starkComps F K cij aij bij pol R e = [] :=
  Cherab.Lemmas.LineShape.stark_zero_width F K cij aij bij pol R e hts hel

/-- only electron broadening: weight 1 on the Lorentzian of width `fwhm_L`, the Gaussian call has σ = 0 -/
theorem stark_lorentz_only (F : Fns α) (hpow : ∀ n : Nat, 0 < n → F.pow 0 (n : α) = 0) (fl : α) (hfl : 0 < fl) :
    starkWidths F fl 0 = some (1, fl, 0) :=
  Cherab.Lemmas.LineShape.stark_lorentz_only F hpow fl hfl

/-- only Doppler broadening: weight 0 and width 0 for the Lorentzian, σ = `fwhm_G / (2√(2 ln 2))` -/
theorem stark_gauss_only (F : Fns α) (hpow : ∀ n : Nat, 0 < n → F.pow 0 (n : α) = 0) (fg : α) (hfg : 0 < fg) :
    starkWidths F 0 fg = some (0, 0, fg / sigma2fwhm F) :=
  Cherab.Lemmas.LineShape.stark_gauss_only F hpow fg hfg

/-- σ₀ + 2σ₁ = 1 and 2(π₂ + π₃ + π₄) with the ½ of `intensity_pi` = 1; the σ/π split `d = 1/(1 + σ/π)` hands
out the whole radiance -/
theorem mse_weights_sum (F : Fns α) (K : Consts α) (R : α) (e : BeamEnv α) (hte : 0 < e.te) (hne : 0 < e.ne)
    (h1 : 1 + e.s2p ≠ 0) (h2 : e.s1s0 + 1 ≠ 0) (h3 : 1 + e.p2p3 + e.p4p3 ≠ 0) :
    radSum (mseComps F K R e) = R := by
  obtain ⟨a, b⟩ := Cherab.Lemmas.LineShape.mse_sigma_pi_split F K R e hte hne h2 h3
  rw [← List.take_append_drop 3 (mseComps F K R e), radSum_append, a, b]
  linear_combination R * mul_one_div_cancel h1

/-- the σ group (3 lines) carries `σ/π · d · R`, the π group (6 lines) `d · R` -/
theorem mse_sigma_pi_split (F : Fns α) (K : Consts α) (R : α) (e : BeamEnv α) (hte : 0 < e.te) (hne : 0 < e.ne)
    (h2 : e.s1s0 + 1 ≠ 0) (h3 : 1 + e.p2p3 + e.p4p3 ≠ 0) :
    radSum ((mseComps F K R e).take 3) = e.s2p * (1 / (1 + e.s2p)) * R ∧
      radSum ((mseComps F K R e).drop 3) = 1 / (1 + e.s2p) * R :=
  Cherab.Lemmas.LineShape.mse_sigma_pi_split F K R e hte hne h2 h3

theorem models_zero_width (F : Fns α) (K : Consts α) (pol : Pol) (R : α) (e : Env α) (hts : e.ts ≤ 0)
    (mult rawPi rawSp rawSm : List (α × α)) (al be ga : α) :
    gaussianLineComps F K R e = [] ∧ multipletComps F K mult R e = [] ∧ zeemanTripletComps F K pol R e = [] ∧
      paramZeemanComps F K al be ga pol R e = [] ∧ zeemanMultipletComps F K rawPi rawSp rawSm pol R e = [] :=
  Cherab.Lemmas.LineShape.models_zero_width F K pol R e hts mult rawPi rawSp rawSm al be ga

theorem cosSqr_range (F : Fns α) (hs : SqrtSpec F.sqrt) (e : Env α) (hd : dot e.dir e.dir ≠ 0) (hb : dot e.b e.b ≠ 0) :
    0 ≤ cosSqr F e ∧ cosSqr F e ≤ 1 :=
  Cherab.Lemmas.LineShape.cosSqr_range F hs e hd hb

/-- so every Zeeman component radiance is non-negative for `R ≥ 0` -/
theorem zeeman_weights_nonneg (c R : α) (h0 : 0 ≤ c) (h1 : c ≤ 1) (hR : 0 ≤ R) :
    0 ≤ 0.5 * (1.0 - c) * R ∧ 0 ≤ (0.25 * (1.0 - c) + 0.5 * c) * R :=
  Cherab.Lemmas.LineShape.zeeman_weights_nonneg c R h0 h1 hR

/-! ### the Lorentzian after the proposed fix (notes/fixes/C02-1.diff) and the witness against the shipped integrator -/

/-- **post-fix model `addLorentzianLineCdf`, full strength: `Σ added·Δ` = `R ×` the fraction of the truncated
normalised profile inside the window** (replaces `lorentz_bins_telescope_partial` once the fix lands) -/
theorem lorentz_cdf_exact (F : Fns α) (hf : FloorSpec F.floorI) (hc : CeilSpec F.ceilI) (G : α → α → α → α)
    (normC cut R wl fwhm : α) (hcut : 0 ≤ cut) (s : Spec α) (hs : WF s) (st en : Int)
    (h : lorActive F cut wl fwhm s = some (st, en)) :
    integral (addLorentzianLineCdf F G normC cut R wl fwhm s) =
      integral s + R * (1 / normC * (G wl (0.5 * fwhm) (min s.mx (wl + cut * fwhm)) -
        G wl (0.5 * fwhm) (max s.mn (wl - cut * fwhm)))) :=
  Cherab.Lemmas.LineShape.lorentz_cdf_exact F hf hc G normC cut R wl fwhm hcut s hs st en h

theorem lorentz_cdf_whole_radiance (F : Fns α) (hf : FloorSpec F.floorI) (hc : CeilSpec F.ceilI) (G : α → α → α → α)
    (normC cut R wl fwhm : α) (hcut : 0 ≤ cut) (hfw : 0 < fwhm) (hC : normC ≠ 0) (s : Spec α) (hs : WF s)
    (hlo : s.mn ≤ wl - cut * fwhm) (hhi : wl + cut * fwhm ≤ s.mx)
    (hnorm : G wl (0.5 * fwhm) (wl + cut * fwhm) - G wl (0.5 * fwhm) (wl - cut * fwhm) = normC) :
    integral (addLorentzianLineCdf F G normC cut R wl fwhm s) = integral s + R :=
  Cherab.Lemmas.LineShape.lorentz_cdf_whole_radiance F hf hc G normC cut R wl fwhm hcut hfw hC s hs hlo hhi hnorm

/-- negation witness for the as-is code: `GaussianQuadrature` (here its `max_order = 1` configuration on `x²`) is not
additive over adjacent intervals, so `lorentz_bins_telescope_partial` does not apply to the shipped integrator -/
theorem gaussQuad_not_additive_witness :
    gaussQuad (fun x : ℚ => x * x) (1 / 100000) [[(0, 2)]] 0 1 + gaussQuad (fun x : ℚ => x * x) (1 / 100000) [[(0, 2)]] 1 2
      ≠ gaussQuad (fun x : ℚ => x * x) (1 / 100000) [[(0, 2)]] 0 2 :=
  Cherab.Lemmas.LineShape.gaussQuad_not_additive_witness

/-! ### `GaussianQuadrature` setter histories: construct → set* → use = fresh(final) -/

/-- after any history of `min_order` / `max_order` / `relative_tolerance` setter calls, accepted or rejected, the
object (parameters *and* flat roots/weights cache) is the freshly constructed integrator with the final parameters -/
theorem gq_history_eq_fresh (table : Nat → List (α × α)) (g : GQ α) (hg : GQInv table g) (ops : List (GQOp α)) :
    gqRun table g ops =
      gqNew table (gqRun table g ops).minO (gqRun table g ops).maxO (gqRun table g ops).rtol :=
  Cherab.Lemmas.LineShape.gq_history_eq_fresh table g hg ops

/-- a setter that raises `ValueError` leaves the object untouched -/
theorem gqSet_rejects_atomically (table : Nat → List (α × α)) (g : GQ α) (op : GQOp α)
    (h : (gqSet table g op).2 = true) : (gqSet table g op).1 = g :=
  Cherab.Lemmas.LineShape.gqSet_rejects_atomically table g op h

/-- `evaluate` on the flat cache (offset `ibegin`) = order stepping over the orders `min … max` of the current
parameters, given that `roots_legendre(k)` returns `k` nodes -/
theorem gqEval_eq_gaussQuad (table : Nat → List (α × α)) (htab : ∀ k, (table k).length = k) (f : α → α) (g : GQ α)
    (hg : GQInv table g) (a b : α) :
    gqEval f g a b = gaussQuad f g.rtol (rulesFor table g.minO g.maxO) a b :=
  Cherab.Lemmas.LineShape.gqEval_eq_gaussQuad table htab f g hg a b

/-- integrands that every rule of the range integrates exactly are integrated exactly -/
theorem gaussQuad_exact (f : α → α) (rtol a b J : α) (rules : List (List (α × α))) (hne : rules ≠ [])
    (h : ∀ r ∈ rules, glRule f (0.5 * (a + b)) (0.5 * (b - a)) r = J) : gaussQuad f rtol rules a b = J :=
  Cherab.Lemmas.LineShape.gaussQuad_exact f rtol a b J rules hne h

/-- **any component list** (any length): Gaussian components of non-negative radiance and positive width whose cut-off
intervals lie inside the window deliver `radSum·erf(cut/√2) ≤ Σ added·Δ ≤ radSum` -/
theorem model_whole_radiance (F : Fns α) (hf : FloorSpec F.floorI) (hc : CeilSpec F.ceilI) (he : ErfSpec F.erf)
    (h2 : 0 < F.sqrt2) (I : α → α → α → α → α) (cutG cutL : α) (hG : 0 ≤ cutG) (cs : List (Comp α)) (hgood : GoodComps cs)
    (s : Spec α) (hs : WF s) (hsp : Spans cutG cs s) :
    integral s + radSum cs * F.erf (cutG / F.sqrt2) ≤ integral (addComps F I cutG cutL cs s) ∧
      integral (addComps F I cutG cutL cs s) ≤ integral s + radSum cs :=
  Cherab.Lemmas.LineShape.model_whole_radiance F hf hc he h2 I cutG cutL hG cs hgood s hs hsp

/-- the Doppler width is positive for a positive temperature, mass and wavelength -/
theorem thermal_pos (F : Fns α) (hs : SqrtSpec F.sqrt) (K : Consts α) (hK : ConstsPos K) (wl t aw : α) (hwl : 0 < wl)
    (ht : 0 < t) (haw : 0 < aw) : 0 < thermalBroadening F K wl t aw :=
  Cherab.Lemmas.LineShape.thermal_pos F hs K hK wl t aw hwl ht haw

/-- **GaussianLine is normalised** -/
theorem gaussianLine_normalised (F : Fns α) (hf : FloorSpec F.floorI) (hc : CeilSpec F.ceilI) (he : ErfSpec F.erf)
    (h2 : 0 < F.sqrt2) (hsq : SqrtSpec F.sqrt) (K : Consts α) (hK : ConstsPos K) (I : α → α → α → α → α) (cutG cutL : α)
    (hG : 0 ≤ cutG) (R : α) (e : Env α) (hR : 0 ≤ R) (hwl : 0 < e.wl) (haw : 0 < e.aw) (hts : 0 < e.ts) (s : Spec α) (hs : WF s)
    (hsp : Spans cutG (gaussianLineComps F K R e) s) :
    integral s + R * F.erf (cutG / F.sqrt2) ≤ integral (addComps F I cutG cutL (gaussianLineComps F K R e) s) ∧
      integral (addComps F I cutG cutL (gaussianLineComps F K R e) s) ≤ integral s + R :=
  comps_normalised F hf hc he h2 I cutG cutL hG _ R (gaussianLine_good hsq hK hR hwl haw hts)
    (gaussianLine_weights_sum F K R e hts) s hs hsp

/-- **MultipletLineShape with a table of any length is normalised: ratios ≥ 0 summing to one ⇒ `Σ added·Δ = R`** (up to the
cut-off loss) -/
theorem multiplet_normalised (F : Fns α) (hf : FloorSpec F.floorI) (hc : CeilSpec F.ceilI) (he : ErfSpec F.erf)
    (h2 : 0 < F.sqrt2) (hsq : SqrtSpec F.sqrt) (K : Consts α) (hK : ConstsPos K) (I : α → α → α → α → α) (cutG cutL : α)
    (hG : 0 ≤ cutG) (mult : List (α × α)) (R : α) (e : Env α) (hR : 0 ≤ R) (hwl : 0 < e.wl) (haw : 0 < e.aw) (hts : 0 < e.ts)
    (hr : ∀ m ∈ mult, 0 ≤ m.2) (hsum : (mult.map Prod.snd).sum = 1) (s : Spec α) (hs : WF s)
    (hsp : Spans cutG (multipletComps F K mult R e) s) :
    integral s + R * F.erf (cutG / F.sqrt2) ≤ integral (addComps F I cutG cutL (multipletComps F K mult R e) s) ∧
      integral (addComps F I cutG cutL (multipletComps F K mult R e) s) ≤ integral s + R :=
  comps_normalised F hf hc he h2 I cutG cutL hG _ R (multiplet_good hsq hK hR hwl haw hts hr)
    (multiplet_weights_sum F K mult R e hts hsum) s hs hsp

/-- **ZeemanTriplet (unpolarised) is normalised for every field vector and viewing direction**, `|B| = 0` included -/
theorem zeemanTriplet_normalised (F : Fns α) (hf : FloorSpec F.floorI) (hc : CeilSpec F.ceilI) (he : ErfSpec F.erf)
    (h2 : 0 < F.sqrt2) (hsq : SqrtSpec F.sqrt) (K : Consts α) (hK : ConstsPos K) (I : α → α → α → α → α) (cutG cutL : α)
    (hG : 0 ≤ cutG) (R : α) (e : Env α) (hR : 0 ≤ R) (hwl : 0 < e.wl) (haw : 0 < e.aw) (hts : 0 < e.ts)
    (hd : dot e.dir e.dir ≠ 0) (s : Spec α) (hs : WF s) (hsp : Spans cutG (zeemanTripletComps F K Pol.no R e) s) :
    integral s + R * F.erf (cutG / F.sqrt2) ≤ integral (addComps F I cutG cutL (zeemanTripletComps F K Pol.no R e) s) ∧
      integral (addComps F I cutG cutL (zeemanTripletComps F K Pol.no R e) s) ≤ integral s + R :=
  comps_normalised F hf hc he h2 I cutG cutL hG _ R (zeemanTriplet_good hsq hK hR hwl haw hts Pol.no)
    (zeemanTriplet_weights_sum F K R e hts) s hs hsp

/-- **ZeemanMultiplet with π / σ⁺ / σ⁻ tables of any length is normalised** (ratios ≥ 0 with positive sums; the
renormalisation of `ZeemanStructure.evaluate` is part of the statement) -/
theorem zeemanMultiplet_normalised (F : Fns α) (hf : FloorSpec F.floorI) (hc : CeilSpec F.ceilI) (he : ErfSpec F.erf)
    (h2 : 0 < F.sqrt2) (hsq : SqrtSpec F.sqrt) (K : Consts α) (hK : ConstsPos K) (I : α → α → α → α → α) (cutG cutL : α)
    (hG : 0 ≤ cutG) (rawPi rawSp rawSm : List (α × α)) (R : α) (e : Env α) (hR : 0 ≤ R) (hwl : 0 < e.wl) (haw : 0 < e.aw)
    (hts : 0 < e.ts) (hd : dot e.dir e.dir ≠ 0) (hpi : ∀ m ∈ rawPi, 0 ≤ m.2) (hsp' : ∀ m ∈ rawSp, 0 ≤ m.2)
    (hsm : ∀ m ∈ rawSm, 0 ≤ m.2) (spi : 0 < (rawPi.map Prod.snd).sum) (ssp : 0 < (rawSp.map Prod.snd).sum)
    (ssm : 0 < (rawSm.map Prod.snd).sum) (s : Spec α) (hs : WF s)
    (hsp : Spans cutG (zeemanMultipletComps F K rawPi rawSp rawSm Pol.no R e) s) :
    integral s + R * F.erf (cutG / F.sqrt2)
        ≤ integral (addComps F I cutG cutL (zeemanMultipletComps F K rawPi rawSp rawSm Pol.no R e) s) ∧
      integral (addComps F I cutG cutL (zeemanMultipletComps F K rawPi rawSp rawSm Pol.no R e) s) ≤ integral s + R :=
  comps_normalised F hf hc he h2 I cutG cutL hG _ R
    (zeemanMultiplet_good hsq hK hR hwl haw hts Pol.no hpi hsp' hsm)
    (zeemanMultiplet_weights_sum F K rawPi rawSp rawSm R e hts spi ssp ssm) s hs hsp

/-- **BeamEmissionMultiplet is normalised** for non-negative intensity ratios -/
theorem mse_normalised (F : Fns α) (hf : FloorSpec F.floorI) (hc : CeilSpec F.ceilI) (he : ErfSpec F.erf)
    (h2 : 0 < F.sqrt2) (hsq : SqrtSpec F.sqrt) (K : Consts α) (hK : ConstsPos K) (I : α → α → α → α → α) (cutG cutL : α)
    (hG : 0 ≤ cutG) (R : α) (e : BeamEnv α) (hR : 0 ≤ R) (hwl : 0 < e.wl) (hm : 0 < e.mass) (hT : 0 < e.temp) (hte : 0 < e.te)
    (hne : 0 < e.ne) (r1 : 0 ≤ e.s2p) (r2 : 0 ≤ e.s1s0) (r3 : 0 ≤ e.p2p3) (r4 : 0 ≤ e.p4p3) (s : Spec α) (hs : WF s)
    (hsp : Spans cutG (mseComps F K R e) s) :
    integral s + R * F.erf (cutG / F.sqrt2) ≤ integral (addComps F I cutG cutL (mseComps F K R e) s) ∧
      integral (addComps F I cutG cutL (mseComps F K R e) s) ≤ integral s + R :=
  comps_normalised F hf hc he h2 I cutG cutL hG _ R (mse_good F hsq K hK R e hR hwl hm hT hte hne r1 r2 r3 r4)
    (mse_weights_sum F K R e hte hne (by positivity) (by positivity) (by positivity)) s hs hsp

/-- components of no width leave the spectrum alone, whatever their kind and radiance -/
theorem addComps_zero_width (F : Fns α) (I : α → α → α → α → α) (cutG cutL : α) (cs : List (Comp α))
    (h : ∀ c ∈ cs, c.width ≤ 0) (s : Spec α) : addComps F I cutG cutL cs s = s :=
  Cherab.Lemmas.LineShape.addComps_zero_width F I cutG cutL cs h s

/-- **zero width, every model, at the level of the returned spectrum**: `T_s ≤ 0` (and no electron broadening for the
Stark model) returns the spectrum unchanged -/
theorem every_model_zero_width (F : Fns α) (K : Consts α) (I : α → α → α → α → α) (cutG cutL : α) (pol : Pol) (R : α) (e : Env α)
    (hts : e.ts ≤ 0) (mult rawPi rawSp rawSm : List (α × α)) (al be ga cij aij bij : α) (hel : e.ne ≤ 0 ∨ e.te ≤ 0) (s : Spec α) :
    addComps F I cutG cutL (gaussianLineComps F K R e) s = s ∧ addComps F I cutG cutL (multipletComps F K mult R e) s = s ∧
      addComps F I cutG cutL (zeemanTripletComps F K pol R e) s = s ∧
      addComps F I cutG cutL (paramZeemanComps F K al be ga pol R e) s = s ∧
      addComps F I cutG cutL (zeemanMultipletComps F K rawPi rawSp rawSm pol R e) s = s ∧
      addComps F I cutG cutL (starkComps F K cij aij bij pol R e) s = s := by
  obtain ⟨a, b, c, d, f⟩ := Cherab.Lemmas.LineShape.models_zero_width F K pol R e hts mult rawPi rawSp rawSm al be ga
  rw [a, b, c, d, f, Cherab.Lemmas.LineShape.stark_zero_width F K cij aij bij pol R e hts hel]
  exact ⟨rfl, rfl, rfl, rfl, rfl, rfl⟩

theorem mse_no_emission (F : Fns α) (K : Consts α) (R : α) (e : BeamEnv α) (h : e.te ≤ 0 ∨ e.ne ≤ 0) :
    mseComps F K R e = [] :=
  Cherab.Lemmas.LineShape.mse_no_emission F K R e h

/-- a beam of zero temperature: nine components of zero width, spectrum unchanged -/
theorem mse_zero_beam_temperature (F : Fns α) (hs : SqrtSpec F.sqrt) (K : Consts α) (I : α → α → α → α → α) (cutG cutL R : α)
    (e : BeamEnv α) (hT : e.temp = 0) (s : Spec α) : addComps F I cutG cutL (mseComps F K R e) s = s :=
  Cherab.Lemmas.LineShape.mse_zero_beam_temperature F hs K I cutG cutL R e hT s

/-! ### non-vacuity: the hypotheses are satisfiable and the conclusions non-trivial (α = ℚ) -/

/-- a monotone, odd function bounded by 1 -/
def clampErf (x : ℚ) : ℚ := max (-1) (min 1 x)

def Fq : Fns ℚ :=
  { sqrt := id, pow := fun _ _ => 0, exp := id, log := id, erf := clampErf, floorI := Int.floor, ceilI := Int.ceil,
    sqrt2 := 3 / 2 }

def spq : Spec ℚ := { mn := 0, mx := 8, dl := 1, bins := 8, samples := [0, 0, 0, 0, 0, 0, 0, 0] }

example : FloorSpec Fq.floorI := fun x => ⟨Int.floor_le x, Int.lt_floor_add_one x⟩
example : CeilSpec Fq.ceilI := fun x =>
  ⟨by have := Int.ceil_lt_add_one x; show ((Int.ceil x : ℤ) : ℚ) - 1 < x; linarith, Int.le_ceil x⟩
example : ErfSpec Fq.erf :=
  ⟨fun a b h => max_le_max le_rfl (min_le_min le_rfl h),
   fun x => by
     -- clamping to `[-1, 1]` from below then above, or from above then below, is the same
     show max (-1) (min 1 (-x)) = -max (-1) (min 1 x)
     rw [← min_neg_neg, ← max_neg_neg, neg_neg, max_min_distrib_left, max_eq_right (by norm_num : (-1 : ℚ) ≤ 1)],
   fun x => max_le (by norm_num) (min_le_left _ _)⟩
example : WF spq := ⟨rfl, by norm_num [spq], by norm_num [spq]⟩
example : gaussActive Fq 10 4 (1 / 10) spq = some (3, 5) := by decide +kernel
/-- a line inside the window: two bins receive R/2 each, Σ·Δ = R -/
example : (addGaussianLine Fq 10 2 4 (1 / 10) spq).samples = [0, 0, 0, 1, 1, 0, 0, 0] := by decide +kernel
example : integral (addGaussianLine Fq 10 2 4 (1 / 10) spq) = integral spq + 2 := by decide +kernel
/-- a line straddling the lower window edge: half the radiance -/
example : integral (addGaussianLine Fq 10 2 0 (1 / 10) spq) = 1 := by decide +kernel
/-- outside / zero width: unchanged -/
example : (addGaussianLine Fq 10 2 20 (1 / 10) spq).samples = spq.samples := by decide +kernel
example : (addGaussianLine Fq 10 2 4 0 spq).samples = spq.samples := by decide +kernel
/-- Zeeman triplet, oblique B (with `Fq.sqrt = id` the model's `cos²` is 1/4, so the weights are 3/8, 5/16, 5/16): the
component list is not empty and its radiances add up to `R = 8` -/
def envq : Env ℚ := { wl := 4, aw := 1, ts := 1, vel := (0, 0, 0), dir := (1, 0, 0), b := (1, 1, 0), ne := 1, te := 1 }
def Kq : Consts ℚ := { amu := 1, echarge := 1, c := 1, hc := 1, muB := 1 / 8 }
example : (zeemanTripletComps Fq Kq Pol.no 8 envq).map (fun c => c.rad) ≠ [] := by decide +kernel
example : radSum (zeemanTripletComps Fq Kq Pol.no 8 envq) = 8 := by decide +kernel
example : (zeemanNormalise [((1 : ℚ), (2 : ℚ)), (2, 6)]).map Prod.snd = [1 / 4, 3 / 4] := by decide +kernel
def benvq : BeamEnv ℚ :=
  { wl := 4, te := 1, ne := 1, energy := 1, b := (0, 0, 1), beamDir := (1, 0, 0), obsDir := (0, 1, 0), mass := 1,
    temp := 1, s2p := 1 / 2, s1s0 := 1 / 3, p2p3 := 1 / 4, p4p3 := 1 / 5 }
example : radSum (mseComps Fq Kq 6 benvq) = 6 := by decide +kernel
/-- the Lorentzian hypothesis is satisfiable: the exact integral of a constant profile is additive -/
example : ∀ a b c : ℚ, (fun (_ _ a b : ℚ) => b - a) 0 0 a b + (fun (_ _ a b : ℚ) => b - a) 0 0 b c
    = (fun (_ _ a b : ℚ) => b - a) 0 0 a c := by intro a b c; ring

/-- post-fix Lorentzian with a (fake, linear) cumulative `G wl hw x = (x − wl)/hw` and `normC = 2·cut·2`: spanning window gets R -/
example : integral (addLorentzianLineCdf Fq (fun wl hw x => (x - wl) / hw) 8 2 3 4 (1 / 2) spq) = integral spq + 3 := by
  decide +kernel

/-- a stand-in for `roots_legendre`: `k` (root, weight) pairs -/
def tabq (k : Nat) : List (ℚ × ℚ) := (List.range k).map fun i => ((i : ℚ) / k - 1 / 2, 2 / k)
/-- a setter history with accepted and rejected calls, from (min, max) = (1, 4): min := 3, max := 2 rejected,
rtol := 0 rejected, min := 2, max := 5, min := 0 rejected; it ends at (2, 5) -/
def histq : List (GQOp ℚ) := [.setMin 3, .setMax 2, .setRtol 0, .setMin 2, .setMax 5, .setMin 0]
example : GQInv tabq (gqNew tabq 1 4 (1 / 100)) := gqNew_inv tabq 1 4 (1 / 100) (by norm_num) (by norm_num) (by norm_num)
example : ((gqRun tabq (gqNew tabq 1 4 (1 / 100)) histq).minO, (gqRun tabq (gqNew tabq 1 4 (1 / 100)) histq).maxO) = (2, 5) := by
  decide +kernel
example : (gqSet tabq (gqNew tabq 3 4 (1 / 100)) (.setMax 2)).2 = true := by decide +kernel
example : ∀ k, (tabq k).length = k := fun k => by simp [tabq]
example : gqEval (fun x => x * x) (gqRun tabq (gqNew tabq 1 4 (1 / 100)) histq) 0 1
    = gqEval (fun x => x * x) (gqNew tabq 2 5 (1 / 100)) 0 1 := by decide +kernel

/-- `SqrtSpec` is satisfiable (over ℝ), `ConstsPos`, `GoodComps`, `Spans` on a concrete two-component list, and
the conclusion of `model_whole_radiance` is attained non-trivially (both components fully inside: Σ added·Δ = 2 + 1) -/
example : SqrtSpec Real.sqrt := fun t ht => ⟨Real.sqrt_nonneg t, Real.mul_self_sqrt ht⟩
example : ConstsPos Kq := ⟨by norm_num [Kq], by norm_num [Kq], by norm_num [Kq]⟩
def csq : List (Comp ℚ) := [gcomp 2 3 (1 / 10), gcomp 1 5 (1 / 10)]
example : GoodComps csq :=
  goodComps_gcomp (by norm_num) (by norm_num) (goodComps_gcomp (by norm_num) (by norm_num) goodComps_nil)
example : Spans 10 csq spq := by unfold Spans; decide +kernel
example : integral (addComps Fq (fun _ _ _ _ => 0) 10 50 csq spq) = integral spq + radSum csq := by decide +kernel
example : radSum csq = 3 := by decide +kernel
example : addComps Fq (fun _ _ _ _ => 0) 10 50 [gcomp 2 3 0, lcomp 1 5 0] spq = spq := rfl
example : mseComps Fq Kq 6 { benvq with te := 0 } = [] := by decide +kernel

end Cherab.Props.C02
