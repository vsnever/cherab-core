import Cherab.Props.C14

/-!
# C14 — existence of the 2-D / 3-D cubic, unconditional end-to-end statements, fresh and paired objects

* `system_solvable_2d/3d`: the 16×16 / 64×64 constraint systems have a solution for every stencil data
  (tensor-product construction from the 1-D Hermite solution) — with `system_nonsingular_2d/3d` the constraint matrix is
  invertible.
* `ideal_solve_total_2d/3d`, `inside_returns_value_2d/3d`: no `LinAlgError` in exact arithmetic — with a solver that
  returns whenever a solution exists, Caching2D / Caching3D return a *value* at every located point.
* `node_value_returned_1d/2d/3d`: the end-to-end node clause without the "if a value is returned" premise.
* `first_evaluation_fresh`, `two_instances_independent`, `two_instances_projection`: the first call on a fresh object,
  and two objects used alternately, as statements about the machine.
-/
namespace Cherab.Props.C14
set_option linter.unusedSectionVars false
open Cherab.Caching

section Exist
variable {α : Type} [Field α] [LinearOrder α] [IsStrictOrderedRing α]

/-- 2-D: a solution of the 16×16 system exists for every stencil data (tensor product of the 1-D Hermite solution) -/
theorem system_solvable_2d (ax ay : Axis α) (cell : Nat × Nat) (D : Nat → Nat → α)
    (hx : ax.xn cell.1 ≠ ax.xn (cell.1 + 1)) (hy : ay.xn cell.2 ≠ ay.xn (cell.2 + 1)) :
    ∃ c, IsSol2 ax ay cell D c := exists2 ax ay cell D hx hy

/-- 3-D: likewise for the 64×64 system -/
theorem system_solvable_3d (ax ay az : Axis α) (cell : Nat × Nat × Nat) (D : Nat → Nat → Nat → α)
    (hx : ax.xn cell.1 ≠ ax.xn (cell.1 + 1)) (hy : ay.xn cell.2.1 ≠ ay.xn (cell.2.1 + 1))
    (hz : az.xn cell.2.2 ≠ az.xn (cell.2.2 + 1)) :
    ∃ c, IsSol3 ax ay az cell D c := exists3 ax ay az cell D hx hy hz

/-- non-vacuity: a concrete rational 2-D / 3-D cell -/
example (D : Nat → Nat → ℚ) : ∃ c, IsSol2 (mkAxis (fun _ : ℚ => 3) 0 1 (1 / 3)) (mkAxis (fun _ : ℚ => 3) 0 1 (1 / 3)) (1, 2) D c :=
  system_solvable_2d _ _ _ D
    (((mkAxis_ok (fun _ : ℚ => 3) 0 1 (1 / 3) (by norm_num) (by unfold EPS; norm_num)).xn_ne 1 2 (by norm_num)
      (by simp [mkAxis, nNodes])).symm)
    (((mkAxis_ok (fun _ : ℚ => 3) 0 1 (1 / 3) (by norm_num) (by unfold EPS; norm_num)).xn_ne 2 3 (by norm_num)
      (by simp [mkAxis, nNodes])).symm)

/-- the ideal solver returns on every 2-D cell with distinct knots -/
theorem ideal_solve_total_2d (ax ay : Axis α) (cell : Nat × Nat) (D : Nat → Nat → α)
    (hx : ax.xn cell.1 ≠ ax.xn (cell.1 + 1)) (hy : ay.xn cell.2 ≠ ay.xn (cell.2 + 1)) :
    ((idealExt α).solve (system2 ax ay cell D).1 (system2 ax ay cell D).2).isSome :=
  ideal_solve_total _ _ ((exists2 ax ay cell D hx hy).imp fun c hc => (solves_system2 ax ay cell D c).mpr hc)

/-- … and on every 3-D cell -/
theorem ideal_solve_total_3d (ax ay az : Axis α) (cell : Nat × Nat × Nat) (D : Nat → Nat → Nat → α)
    (hx : ax.xn cell.1 ≠ ax.xn (cell.1 + 1)) (hy : ay.xn cell.2.1 ≠ ay.xn (cell.2.1 + 1))
    (hz : az.xn cell.2.2 ≠ az.xn (cell.2.2 + 1)) :
    ((idealExt α).solve (system3 ax ay az cell D).1 (system3 ax ay az cell D).2).isSome :=
  ideal_solve_total _ _ ((exists3 ax ay az cell D hx hy hz).imp fun c hc => (solves_system3 ax ay az cell D c).mpr hc)

/-- **no LinAlgError in exact arithmetic (2-D).**  With a solver that returns whenever the system it is given has a
solution, every evaluation of Caching2D at a located point returns a value. -/
theorem inside_returns_value_2d (E : Ext α) (hT : ∀ A b, (∃ c, Solves A b c) → (E.solve A b).isSome)
    (ax ay : Axis α) (hax : AxisOK ax) (hay : AxisOK ay) (nm : Norm α) (f : α × α → α) (nbe : Bool) (p : α × α)
    (cell : Nat × Nat) (hc : cellOf2 ax ay p = some cell) :
    ∃ v, evalPure (spec2 E ax ay nm) (envOf f nm) nbe p = .val v := by
  obtain ⟨hcx, hcy⟩ := (cellOf2_eq_some ax ay p cell).mp hc
  obtain ⟨c0, hc0⟩ := exists2 ax ay cell (fun a b =>
    ((stencil2 cell).map (nodeVal (spec2 E ax ay nm) (envOf f nm))).getD (4 * a + b) 0) (hax.knot_ne hcx) (hay.knot_ne hcy)
  obtain ⟨c, hcs⟩ := Option.isSome_iff_exists.mp (hT _ _ ⟨c0, (solves_system2 ax ay cell _ c0).mpr hc0⟩)
  exact ⟨_, evalPure_of_build _ _ nbe (show (spec2 E ax ay nm).locate p = some cell from hc) (envOf_all _ _ _ _)
    (congrArg (Option.map (finish2 E ax ay nm)) hcs)⟩

/-- **no LinAlgError in exact arithmetic (3-D).** -/
theorem inside_returns_value_3d (E : Ext α) (hT : ∀ A b, (∃ c, Solves A b c) → (E.solve A b).isSome)
    (ax ay az : Axis α) (hax : AxisOK ax) (hay : AxisOK ay) (haz : AxisOK az) (nm : Norm α) (f : α × α × α → α)
    (nbe : Bool) (p : α × α × α) (cell : Nat × Nat × Nat) (hc : cellOf3 ax ay az p = some cell) :
    ∃ v, evalPure (spec3 E ax ay az nm) (envOf f nm) nbe p = .val v := by
  obtain ⟨hcx, hcy, hcz⟩ := (cellOf3_eq_some ax ay az p cell).mp hc
  obtain ⟨c0, hc0⟩ := exists3 ax ay az cell (fun a b k =>
    ((stencil3 cell).map (nodeVal (spec3 E ax ay az nm) (envOf f nm))).getD (16 * a + 4 * b + k) 0)
    (hax.knot_ne hcx) (hay.knot_ne hcy) (haz.knot_ne hcz)
  obtain ⟨c, hcs⟩ := Option.isSome_iff_exists.mp (hT _ _ ⟨c0, (solves_system3 ax ay az cell _ c0).mpr hc0⟩)
  exact ⟨_, evalPure_of_build _ _ nbe (show (spec3 E ax ay az nm).locate p = some cell from hc) (envOf_all _ _ _ _)
    (congrArg (Option.map (finish3 E ax ay az nm)) hcs)⟩

/-- non-vacuity: the ideal solver on a concrete rational 2-D grid at a point of the area -/
example (f : ℚ × ℚ → ℚ) :
    ∃ v, evalPure (spec2 (idealExt ℚ) (mkAxis (fun _ : ℚ => 3) 0 1 (1 / 3)) (mkAxis (fun _ : ℚ => 3) 0 1 (1 / 3))
      (mkNorm none)) (envOf f (mkNorm none)) false (1 / 2, 1 / 2) = .val v := by
  obtain ⟨c, hc⟩ := inside_area_is_cached_2d (fun _ : ℚ => 3) (fun _ : ℚ => 3) 0 1 (1 / 3) 0 1 (1 / 3)
    (by norm_num) (by unfold EPS; norm_num) (by norm_num) (by unfold EPS; norm_num) (1 / 2, 1 / 2)
    (by norm_num) (by norm_num) (by norm_num) (by norm_num)
  exact inside_returns_value_2d (idealExt ℚ) ideal_solve_total _ _
    (mkAxis_ok _ _ _ _ (by norm_num) (by unfold EPS; norm_num))
    (mkAxis_ok _ _ _ _ (by norm_num) (by unfold EPS; norm_num)) _ f false _ c hc

example (f : ℚ × ℚ × ℚ → ℚ) :
    ∃ v, evalPure (spec3 (idealExt ℚ) (mkAxis (fun _ : ℚ => 3) 0 1 (1 / 3)) (mkAxis (fun _ : ℚ => 3) 0 1 (1 / 3))
      (mkAxis (fun _ : ℚ => 3) 0 1 (1 / 3)) (mkNorm none)) (envOf f (mkNorm none)) false (1 / 2, 1 / 2, 1) = .val v := by
  obtain ⟨c, hc⟩ := inside_area_is_cached_3d (fun _ : ℚ => 3) (fun _ : ℚ => 3) (fun _ : ℚ => 3)
    0 1 (1 / 3) 0 1 (1 / 3) 0 1 (1 / 3)
    (by norm_num) (by unfold EPS; norm_num) (by norm_num) (by unfold EPS; norm_num) (by norm_num)
    (by unfold EPS; norm_num) (1 / 2, 1 / 2, 1)
    (by norm_num) (by norm_num) (by norm_num) (by norm_num) (by norm_num) (by norm_num)
  exact inside_returns_value_3d (idealExt ℚ) ideal_solve_total _ _ _
    (mkAxis_ok _ _ _ _ (by norm_num) (by unfold EPS; norm_num))
    (mkAxis_ok _ _ _ _ (by norm_num) (by unfold EPS; norm_num))
    (mkAxis_ok _ _ _ _ (by norm_num) (by unfold EPS; norm_num)) _ f false _ c hc

/-- Caching1D returns exactly `f(node)` at every inner node (trusting only that `solve` returns a solution when one
exists and that what it returns is one) -/
theorem node_value_returned_1d (E : Ext α) (hE : ExtOK E) (hT : ∀ A b, (∃ c, Solves A b c) → (E.solve A b).isSome)
    (ax : Axis α) (hax : AxisOK ax) (nm : Norm α) (hnm : NormOK nm) (f : α → α) (nbe : Bool) (i : Nat)
    (h1 : 1 ≤ i) (h2 : i + 2 ≤ ax.top) :
    evalPure (spec1 E ax nm) (envOf f nm) nbe (ax.dom i) = .val (f (ax.dom i)) := by
  obtain ⟨v, hv⟩ := inside_returns_value_1d E hT ax hax nm f nbe _ i (hax.cellOf_dom h1 h2)
  rw [hv, interpolates_nodes_1d E hE ax hax nm hnm f nbe i h1 h2 v hv]

theorem node_value_returned_2d (E : Ext α) (hE : ExtOK E) (hT : ∀ A b, (∃ c, Solves A b c) → (E.solve A b).isSome)
    (ax ay : Axis α) (hax : AxisOK ax) (hay : AxisOK ay) (nm : Norm α) (hnm : NormOK nm) (f : α × α → α)
    (nbe : Bool) (i j : Nat) (hi1 : 1 ≤ i) (hi2 : i + 2 ≤ ax.top) (hj1 : 1 ≤ j) (hj2 : j + 2 ≤ ay.top) :
    evalPure (spec2 E ax ay nm) (envOf f nm) nbe (ax.dom i, ay.dom j) = .val (f (ax.dom i, ay.dom j)) := by
  obtain ⟨v, hv⟩ := inside_returns_value_2d E hT ax ay hax hay nm f nbe _ _ (cellOf2_dom hax hay hi1 hi2 hj1 hj2)
  rw [hv, interpolates_nodes_2d E hE ax ay hax hay nm hnm f nbe i j hi1 hi2 hj1 hj2 v hv]

theorem node_value_returned_3d (E : Ext α) (hE : ExtOK E) (hT : ∀ A b, (∃ c, Solves A b c) → (E.solve A b).isSome)
    (ax ay az : Axis α) (hax : AxisOK ax) (hay : AxisOK ay) (haz : AxisOK az) (nm : Norm α) (hnm : NormOK nm)
    (f : α × α × α → α) (nbe : Bool) (i j k : Nat)
    (hi1 : 1 ≤ i) (hi2 : i + 2 ≤ ax.top) (hj1 : 1 ≤ j) (hj2 : j + 2 ≤ ay.top) (hk1 : 1 ≤ k) (hk2 : k + 2 ≤ az.top) :
    evalPure (spec3 E ax ay az nm) (envOf f nm) nbe (ax.dom i, ay.dom j, az.dom k)
      = .val (f (ax.dom i, ay.dom j, az.dom k)) := by
  obtain ⟨v, hv⟩ := inside_returns_value_3d E hT ax ay az hax hay haz nm f nbe _ _
    (cellOf3_dom hax hay haz hi1 hi2 hj1 hj2 hk1 hk2)
  rw [hv, interpolates_nodes_3d E hE ax ay az hax hay haz nm hnm f nbe i j k hi1 hi2 hj1 hj2 hk1 hk2 v hv]

/-- non-vacuity: the hypotheses on the solver are jointly satisfiable (the ideal solver), on a concrete grid -/
example (f : ℚ × ℚ → ℚ) :
    evalPure (spec2 (idealExt ℚ) (mkAxis (fun _ : ℚ => 3) 0 1 (1 / 3)) (mkAxis (fun _ : ℚ => 3) 0 1 (1 / 3))
      (mkNorm none)) (envOf f (mkNorm none)) false
      ((mkAxis (fun _ : ℚ => 3) 0 1 (1 / 3)).dom 1, (mkAxis (fun _ : ℚ => 3) 0 1 (1 / 3)).dom 2)
    = .val (f ((mkAxis (fun _ : ℚ => 3) 0 1 (1 / 3)).dom 1, (mkAxis (fun _ : ℚ => 3) 0 1 (1 / 3)).dom 2)) :=
  node_value_returned_2d (idealExt ℚ) ideal_solve_ok ideal_solve_total _ _
    (mkAxis_ok _ _ _ _ (by norm_num) (by unfold EPS; norm_num))
    (mkAxis_ok _ _ _ _ (by norm_num) (by unfold EPS; norm_num)) _ (mkNorm_ok _) f false 1 2
    (by norm_num) (by simp [mkAxis, nNodes]) (by norm_num) (by simp [mkAxis, nNodes])

end Exist

section Fresh
variable {α P ν κ C : Type} [DecidableEq ν] [DecidableEq κ]

/-- **first evaluation on a fresh object**: the very first call already returns the history-free value (no
"last call" shortcut, no uninitialised memo) and, inside a cell with a wrapped function that returns everywhere,
asks the wrapped function for exactly the 4^d stencil nodes in stencil order; outside nothing or the point itself. -/
theorem first_evaluation_fresh (S : Spec α P ν κ C) (E : Env α P) (nbe : Bool) (p : P)
    (hnd : ∀ c, (S.stencil c).Nodup) (htot : ∀ q, (E.f q).isSome) :
    (evalStep S E nbe St.init p).2.1 = evalPure S E nbe p ∧
    (evalStep S E nbe St.init p).2.2 =
      (match S.locate p with
       | none => if nbe then [p] else []
       | some c => (S.stencil c).map S.coord) := by
  refine ⟨(evalStep_spec S E nbe _ (inv_init S E) p).2, ?_⟩
  rw [calls_exact S E nbe St.init p hnd htot]
  cases S.locate p with
  | none => rfl
  | some c => simp [St.init]

/-- two caching objects used alternately: `(true, p)` evaluates the first at `p`, `(false, p)` the second; each has its
own state and nothing else (no class- or module-level state) -/
def pairOuts (SA SB : Spec α P ν κ C) (EA EB : Env α P) (na nb : Bool) :
    St α ν κ C → St α ν κ C → List (Bool × P) → List (Out α)
  | _, _, [] => []
  | sa, sb, (true, p) :: h =>
    (evalStep SA EA na sa p).2.1 :: pairOuts SA SB EA EB na nb (evalStep SA EA na sa p).1 sb h
  | sa, sb, (false, p) :: h =>
    (evalStep SB EB nb sb p).2.1 :: pairOuts SA SB EA EB na nb sa (evalStep SB EB nb sb p).1 h

/-- **two instances are independent**: under any interleaving of evaluations on two fresh objects (different wrapped
functions, areas, policies) every output is what that object's own history-free evaluation gives — the other object's
activity never shows. -/
theorem two_instances_independent (SA SB : Spec α P ν κ C) (EA EB : Env α P) (na nb : Bool) (h : List (Bool × P)) :
    pairOuts SA SB EA EB na nb St.init St.init h =
      h.map (fun bp => if bp.1 then evalPure SA EA na bp.2 else evalPure SB EB nb bp.2) := by
  suffices ∀ sa sb : St α ν κ C, Inv SA EA sa → Inv SB EB sb → pairOuts SA SB EA EB na nb sa sb h =
      h.map (fun bp => if bp.1 then evalPure SA EA na bp.2 else evalPure SB EB nb bp.2) from
    this _ _ (inv_init SA EA) (inv_init SB EB)
  induction h with
  | nil => intro sa sb _ _; rfl
  | cons bp h ih =>
    intro sa sb ha hb
    obtain ⟨b, p⟩ := bp
    cases b with
    | true =>
      obtain ⟨h1, h2⟩ := evalStep_spec SA EA na sa ha p
      simp only [pairOuts, List.map_cons, h2, ih _ _ h1 hb, if_true]
    | false =>
      obtain ⟨h1, h2⟩ := evalStep_spec SB EB nb sb hb p
      simp only [pairOuts, List.map_cons, h2, ih _ _ ha h1]
      simp

/-- when one object is used first and the other afterwards (either order), the paired run is the two objects' own runs
(`outs`) one after the other -/
theorem two_instances_projection (SA SB : Spec α P ν κ C) (EA EB : Env α P) (na nb : Bool) (ps qs : List P) :
    pairOuts SA SB EA EB na nb St.init St.init (ps.map (fun p => (true, p)) ++ qs.map (fun q => (false, q))) =
      outs SA EA na St.init ps ++ outs SB EB nb St.init qs ∧
    pairOuts SA SB EA EB na nb St.init St.init (qs.map (fun q => (false, q)) ++ ps.map (fun p => (true, p))) =
      outs SB EB nb St.init qs ++ outs SA EA na St.init ps := by
  rw [two_instances_independent, two_instances_independent, trace_refines_pure, trace_refines_pure]
  simp [List.map_append, List.map_map, Function.comp_def]

example : pairOuts (spec1 (⟨fun _ _ => none, fun x n => x ^ n⟩ : Ext ℚ) (mkAxis (fun _ => 3) 0 1 1) (mkNorm none))
    (spec1 (⟨fun _ _ => none, fun x n => x ^ n⟩ : Ext ℚ) (mkAxis (fun _ => 3) 0 1 1) (mkNorm none))
    (envOf (fun x => x) (mkNorm none)) (envOf (fun x => x + 1) (mkNorm none)) true true St.init St.init
    [(true, 5), (false, 5)] = [.val 5, .val 6] := by
  rw [two_instances_independent]
  have hc : ∀ E : Ext ℚ, (spec1 E (mkAxis (fun _ => 3) 0 1 1) (mkNorm none)).locate 5 = none := fun E =>
    outside_area_no_cell (fun _ : ℚ => 3) 0 1 1 (by norm_num) (by unfold EPS; norm_num) 5
      (Or.inr (by unfold EPS; norm_num))
  simp only [List.map_cons, List.map_nil, if_true, evalPure_none _ _ _ (hc _)]
  simp [envOf]
  norm_num

end Fresh

end Cherab.Props.C14
